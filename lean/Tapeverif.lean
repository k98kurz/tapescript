import Tapeverif.Model.Basic
import Tapeverif.Model.Codec
import Tapeverif.Model.Float
import Tapeverif.Model.Hash
import Tapeverif.Model.VM
import Tapeverif.Model.Crypto
import Tapeverif.Model.Ed25519
import Tapeverif.Model.Instr
import Tapeverif.Model.Auth
import Tapeverif.Lemmas.Codec
import Tapeverif.Lemmas.Kernel
import Tapeverif.Lemmas.VMInv
import Tapeverif.Lemmas.VMRun
import Tapeverif.Props.C01
import Tapeverif.Props.C06
import Tapeverif.Props.C07
import Tapeverif.Props.C08
import Tapeverif.Props.C10
import Tapeverif.Model.Tools
import Tapeverif.Lemmas.Exec
import Tapeverif.Props.C16
import Tapeverif.Lemmas.Fork
import Tapeverif.Props.C20
import Tapeverif.Model.SigPure
import Tapeverif.Lemmas.SigRefine
import Tapeverif.Lemmas.Greedy
import Tapeverif.Props.C02
import Tapeverif.Props.C03
import Tapeverif.Props.C09
import Tapeverif.Model.Asm
import Tapeverif.Lemmas.Asm
import Tapeverif.Props.C11
import Tapeverif.Props.C12
import Tapeverif.Lemmas.Algebra
import Tapeverif.Props.C17
import Tapeverif.Props.C18
import Tapeverif.Model.Registry
import Tapeverif.Props.C19
import Tapeverif.Props.C13
import Tapeverif.Props.C14
import Tapeverif.Props.C15
import Tapeverif.Lemmas.Mono
import Tapeverif.Lemmas.BigStep
import Tapeverif.Lemmas.InstrSteps
import Tapeverif.Props.C04
import Tapeverif.Props.C05
import Tapeverif.Lemmas.RunInstr
import Tapeverif.Lemmas.RunRel
import Tapeverif.Lemmas.MsRefine
import Tapeverif.Props.C16Locks
import Tapeverif.Lemmas.RunCall
import Tapeverif.Props.C14Locks
import Tapeverif.Lemmas.Counts
import Tapeverif.Lemmas.Term
import Tapeverif.Lemmas.BndAttr
import Tapeverif.Lemmas.NoGuard
import Tapeverif.Props.C07Term
import Tapeverif.Props.C13Locks
import Tapeverif.Props.C05Locks
import Tapeverif.Props.C17Instr
import Tapeverif.Props.C17Locks
import Tapeverif.Props.C17LockPub
import Tapeverif.Props.C18Locks
import Tapeverif.Props.C13Graftap
import Tapeverif.Model.Lex
import Tapeverif.Props.C11Lex
