import Lean.Meta.Tactic.Simp.RegisterCommand
/-- Unfoldings that let `simp` walk an instruction's `Op` term down to its continuation (`Lemmas/NoGuard.lean`). -/
register_simp_attr bnd
