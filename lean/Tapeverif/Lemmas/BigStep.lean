import Tapeverif.Lemmas.Mono
import Tapeverif.Lemmas.Exec
/-! Fuel-free big-step relations on top of the fuel-indexed interpreters. `Steps op fr sh r`
    says: with some (hence, by monotonicity, every larger) amount of fuel, running `op` from
    `(fr, sh)` ends in `r`, and `r` is not the out-of-fuel outcome. -/
namespace TV

variable (T : UInt8 → Op) (L : Limits)

def Steps (op : Op) (fr : Frame) (sh : Shared) (r : Res) : Prop :=
  ∃ n, runOp T L n op fr sh = r ∧ r.isFuel = false

def TSteps (fr : Frame) (sh : Shared) (r : Res) : Prop :=
  ∃ n, runTape T L n fr sh = r ∧ r.isFuel = false

variable {T L}

theorem Steps.settles {op : Op} {fr : Frame} {sh : Shared} {r : Res} (h : Steps T L op fr sh r) :
    Settles (runOp T L · op fr sh) r := let ⟨n, hn, hf⟩ := h; ⟨hf, n, fun _ hle => runOp_mono T L hle hn hf⟩

theorem TSteps.settles {fr : Frame} {sh : Shared} {r : Res} (h : TSteps T L fr sh r) :
    Settles (runTape T L · fr sh) r := let ⟨n, hn, hf⟩ := h; ⟨hf, n, fun _ hle => runTape_mono T L hle hn hf⟩

theorem Steps.of_settles {op : Op} {fr : Frame} {sh : Shared} {r : Res} (h : Settles (runOp T L · op fr sh) r) :
    Steps T L op fr sh r := let ⟨hf, n, hn⟩ := h; ⟨n, hn n (Nat.le_refl _), hf⟩

theorem TSteps.of_settles {fr : Frame} {sh : Shared} {r : Res} (h : Settles (runTape T L · fr sh) r) :
    TSteps T L fr sh r := let ⟨hf, n, hn⟩ := h; ⟨n, hn n (Nat.le_refl _), hf⟩

theorem Steps.det {op : Op} {fr : Frame} {sh : Shared} {r r' : Res}
    (h : Steps T L op fr sh r) (h' : Steps T L op fr sh r') : r = r' := h.settles.unique h'.settles

theorem TSteps.det {fr : Frame} {sh : Shared} {r r' : Res}
    (h : TSteps T L fr sh r) (h' : TSteps T L fr sh r') : r = r' := h.settles.unique h'.settles

theorem TSteps.run {fr : Frame} {sh : Shared} {r : Res} (h : TSteps T L fr sh r) :
    ∃ n0, ∀ n, n0 ≤ n → runTape T L n fr sh = r := h.settles.2

theorem Steps.run {op : Op} {fr : Frame} {sh : Shared} {r : Res} (h : Steps T L op fr sh r) :
    ∃ n0, ∀ n, n0 ≤ n → runOp T L n op fr sh = r := h.settles.2

/-- turn a fuel-indexed rewriting lemma into a big-step rule -/
theorem steps_of_eq {op k : Op} {fr fr' : Frame} {sh sh' : Shared} {r : Res} (K : Nat)
    (h : ∀ n, runOp T L (n + K) op fr sh = runOp T L n k fr' sh') (hk : Steps T L k fr' sh' r) :
    Steps T L op fr sh r := by
  obtain ⟨n, hn, hf⟩ := hk
  exact ⟨n + K, by rw [h, hn], hf⟩

theorem Steps.prim {op k : Op} {fr fr' : Frame} {sh sh' : Shared} {r : Res} (h : Prim L op fr sh k fr' sh')
    (hk : Steps T L k fr' sh' r) : Steps T L op fr sh r := steps_of_eq 1 (runOp_prim T h) hk

theorem Steps.raises {op : Op} {fr : Frame} {sh : Shared} {e : ErrKind} (h : Raises L op fr sh e) :
    Steps T L op fr sh (.err (.user e) sh) := ⟨1, runOp_raises T h 0, rfl⟩

theorem Steps.done (fr : Frame) (sh : Shared) : Steps T L .done fr sh (.ok fr sh) :=
  ⟨1, rfl, rfl⟩

theorem Steps.fail (e : ErrKind) (fr : Frame) (sh : Shared) :
    Steps T L (.fail e) fr sh (.err (.user e) sh) := .raises .fail

theorem Steps.ret (fr : Frame) (sh : Shared) :
    Steps T L .ret fr sh (.ok (endFrame fr) { sh with returned := true }) := ⟨1, rfl, rfl⟩

theorem Steps.pop {k : Bytes → Op} {fr : Frame} {sh : Shared} {r : Res} (x : Bytes) (st : List Bytes)
    (hs : sh.stack = x :: st) (h : Steps T L (k x) fr { sh with stack := st } r) :
    Steps T L (.pop k) fr sh r := .prim (.pop hs) h

theorem Steps.pop_empty {k : Bytes → Op} {fr : Frame} {sh : Shared} (hs : sh.stack = []) :
    Steps T L (.pop k) fr sh (.err (.user .index) sh) := .raises (.pop hs)

theorem Steps.peekTop {k : Bytes → Op} {fr : Frame} {sh : Shared} {r : Res} (x : Bytes) (st : List Bytes)
    (hs : sh.stack = x :: st) (h : Steps T L (k x) fr sh r) :
    Steps T L (.peekTop k) fr sh r := .prim (.peekTop hs) h

theorem Steps.depth {k : Nat → Op} {fr : Frame} {sh : Shared} {r : Res}
    (h : Steps T L (k sh.stack.length) fr sh r) : Steps T L (.depth k) fr sh r := .prim .depth h

theorem Steps.push {b : Bytes} {k : Op} {fr : Frame} {sh : Shared} {r : Res}
    (h1 : b.length ≤ L.maxItemSize) (h2 : sh.stack.length < L.maxItems)
    (h : Steps T L k fr { sh with stack := b :: sh.stack } r) : Steps T L (.push b k) fr sh r :=
  .prim (.push h1 h2) h

theorem Steps.push_too_big {b : Bytes} {k : Op} {fr : Frame} {sh : Shared}
    (h1 : ¬ b.length ≤ L.maxItemSize) : Steps T L (.push b k) fr sh (.err (.user .see) sh) :=
  .raises (.pushBig h1)

theorem Steps.push_full {b : Bytes} {k : Op} {fr : Frame} {sh : Shared}
    (h2 : ¬ sh.stack.length < L.maxItems) : Steps T L (.push b k) fr sh (.err (.user .see) sh) :=
  .raises (.pushFull h2)

theorem Steps.read {m : Nat} {k : Bytes → Op} {fr : Frame} {sh : Shared} {r : Res}
    (hm : m ≤ fr.rest.length)
    (h : Steps T L (k (fr.rest.take m)) { fr with rest := fr.rest.drop m } sh r) :
    Steps T L (.read m k) fr sh r := .prim (.read hm) h

theorem Steps.read_short {m : Nat} {k : Bytes → Op} {fr : Frame} {sh : Shared}
    (hm : ¬ m ≤ fr.rest.length) : Steps T L (.read m k) fr sh (.err (.user .see) sh) :=
  .raises (.read hm)

/-- reading a `str`-keyed cache entry (never touches the taint flags) -/
theorem Steps.cacheGet_str {s : Bytes} {k : Option CVal → Op} {fr : Frame} {sh : Shared} {r : Res}
    (h : Steps T L (k (lookupC (.str s) sh.cache)) fr sh r) :
    Steps T L (.cacheGet (.str s) k) fr sh r := by
  refine .prim .cacheGet ?_
  simpa using h

/-- reading a `bytes`-keyed cache entry other than `b'E'` -/
theorem Steps.cacheGet_byt {key : Bytes} {k : Option CVal → Op} {fr : Frame} {sh : Shared} {r : Res}
    (hk : key ≠ eKey) (h : Steps T L (k (lookupC (.byt key) sh.cache)) fr sh r) :
    Steps T L (.cacheGet (.byt key) k) fr sh r := by
  refine .prim .cacheGet ?_
  simpa [hk] using h

theorem Steps.cachePut {key : Bytes} {v : CVal} {k : Op} {fr : Frame} {sh : Shared} {r : Res}
    (h : Steps T L k fr { sh with cache := (.byt key, v) :: sh.cache,
                                  eTaint := if key = eKey then false else sh.eTaint } r) :
    Steps T L (.cachePut key v k) fr sh r := .prim .cachePut h

theorem Steps.log {t : Nat} {k : Op} {fr : Frame} {sh : Shared} {r : Res}
    (h : Steps T L k fr { sh with plog := t :: sh.plog } r) : Steps T L (.log t k) fr sh r := .prim .log h

theorem Steps.guardCount {k : Op} {fr : Frame} {sh : Shared} {r : Res}
    (hc : getCount fr sh < L.callLimit) (h : Steps T L k fr sh r) :
    Steps T L (.guardCount k) fr sh r := .prim (.guardCount hc) h

theorem Steps.guardCount_over {k : Op} {fr : Frame} {sh : Shared}
    (hc : ¬ getCount fr sh < L.callLimit) :
    Steps T L (.guardCount k) fr sh (.err (.user .see) sh) := .raises (.guardCount hc)

/-- the shape of every construct that runs a body: a nested tape run, then a continuation -/
theorem Steps.nested {op : Op} {fr fB : Frame} {sh sB : Shared} {rB r : Res} {g : Nat → Frame → Shared → Res}
    (heq : ∀ n, runOp T L (n + 1) op fr sh = (runTape T L n fB sB).bind (g n))
    (hb : TSteps T L fB sB rB) (hg : Settles (fun n => rB.bind (g n)) r) : Steps T L op fr sh r :=
  .of_settles (.shift heq (hb.settles.bind hg))

/-- `OP_EVAL`-style sub-run that ends without error and without a propagating RETURN -/
theorem Steps.sub_eval_ok {p : Bool} {body : Bytes} {k : Op} {fr fr' : Frame} {sh sh' : Shared} {r : Res}
    (hc : getCount fr sh < L.callLimit)
    (hb : TSteps T L (evalFrame body (getCount fr sh) (copyDict sh fr.dict).1) (copyDict sh fr.dict).2 (.ok fr' sh'))
    (hp : (sh'.returned && p) = false)
    (h : Steps T L k fr { sh' with returned := false } r) :
    Steps T L (.sub (.eval p) body k) fr sh r :=
  .nested (runOp_eval T hc · p body k) hb (by simp only [Res.bind_ok, hp, Bool.false_eq_true, ↓reduceIte]; exact h.settles)

/-- … that ends with an error: the error propagates, nothing after it runs -/
theorem Steps.sub_eval_err {p : Bool} {body : Bytes} {k : Op} {fr : Frame} {sh sh' : Shared} {e : Err}
    (hc : getCount fr sh < L.callLimit) (he : e ≠ .fuel)
    (hb : TSteps T L (evalFrame body (getCount fr sh) (copyDict sh fr.dict).1) (copyDict sh fr.dict).2 (.err e sh')) :
    Steps T L (.sub (.eval p) body k) fr sh (.err e sh') :=
  .nested (runOp_eval T hc · p body k) hb (.const hb.settles.1)

theorem Steps.sub_eval_over {p : Bool} {body : Bytes} {k : Op} {fr : Frame} {sh : Shared}
    (hc : ¬ getCount fr sh < L.callLimit) :
    Steps T L (.sub (.eval p) body k) fr sh (.err (.user .see) sh) := .raises (.eval hc)

theorem TSteps.nil {fr : Frame} {sh : Shared} (h : fr.rest = []) : TSteps T L fr sh (.ok fr sh) :=
  ⟨1, runTape_nil T h 0 sh, rfl⟩

theorem TSteps.cons {fr : Frame} {sh : Shared} {rO r : Res} (c : UInt8) (rest : Bytes)
    (hrest : fr.rest = c :: rest) (hcap : fr.len0 < fr.cap) (hr : sh.returned = false)
    (h1 : Steps T L (T c) { fr with rest := rest } sh rO) (h2 : Settles (fun n => rO.bind (runTape T L n)) r) :
    TSteps T L fr sh r :=
  .of_settles (.shift (runTape_cons T hrest hcap hr) (h1.settles.bind h2))

theorem TSteps.cons_err {fr : Frame} {sh sh' : Shared} {e : Err} (c : UInt8) (rest : Bytes)
    (hrest : fr.rest = c :: rest) (hcap : fr.len0 < fr.cap) (hr : sh.returned = false)
    (h1 : Steps T L (T c) { fr with rest := rest } sh (.err e sh')) :
    TSteps T L fr sh (.err e sh') :=
  .cons c rest hrest hcap hr h1 (.const h1.settles.1)

theorem u1_of_nat (n : Nat) (h : n < 256) : natOfBytesBE [UInt8.ofNat n] = n := by
  rw [natOfBytesBE_singleton, toNat_ofNat_of_lt h]

theorem boolBytes_length (b : Bool) : (boolBytes b).length = 1 := by cases b <;> rfl
theorem truthy_boolBytes (b : Bool) : truthy (boolBytes b) = b := by cases b <;> rfl
theorem notBytes_bool (b : Bool) : truthy (notBytes (boolBytes b)) = !b := by cases b <;> decide

open Instr

theorem Steps.readU1 {k : Nat → Op} {fr : Frame} {sh : Shared} {r : Res} {n : Nat} {rest : Bytes}
    (hn : n < 256) (hrest : fr.rest = UInt8.ofNat n :: rest)
    (h : Steps T L (k n) { fr with rest := rest } sh r) : Steps T L (readU1 k) fr sh r := by
  refine Steps.read (m := 1) (by simp [hrest]) ?_
  simpa [hrest, u1_of_nat n hn] using h

theorem Steps.popInt {k : Int → Op} {fr : Frame} {sh : Shared} {r : Res} {b : Bytes} {z : Int}
    {st : List Bytes} (hb : bytesToInt b = some z) (hs : sh.stack = b :: st)
    (h : Steps T L (k z) fr { sh with stack := st } r) : Steps T L (popInt k) fr sh r :=
  Steps.pop b st hs (by rw [hb]; exact h)

theorem Steps.pushInt {z : Int} {k : Op} {fr : Frame} {sh : Shared} {r : Res}
    (h1 : (intToBytes z).length ≤ L.maxItemSize) (h2 : sh.stack.length < L.maxItems)
    (h : Steps T L k fr { sh with stack := intToBytes z :: sh.stack } r) :
    Steps T L (pushInt z k) fr sh r := Steps.push h1 h2 h

theorem Steps.pushBool {b : Bool} {k : Op} {fr : Frame} {sh : Shared} {r : Res}
    (h1 : 1 ≤ L.maxItemSize) (h2 : sh.stack.length < L.maxItems)
    (h : Steps T L k fr { sh with stack := boolBytes b :: sh.stack } r) :
    Steps T L (pushBool b k) fr sh r := Steps.push (by rwa [boolBytes_length]) h2 h

/-- popping `n` integer items: the continuation receives the fold of the decoded values -/
theorem Steps.foldInts (f : Int → Int → Int) {k : Int → Op} {fr : Frame} {r : Res} {st : List Bytes}
    {bs : List Bytes} {zs : List Int} {acc : Int} {sh : Shared}
    (hf : bs.map bytesToInt = zs.map some) (hs : sh.stack = bs ++ st)
    (h : Steps T L (k (zs.foldl f acc)) fr { sh with stack := st } r) :
    Steps T L (foldInts f bs.length acc k) fr sh r := by
  induction bs generalizing zs acc sh with
  | nil =>
    cases zs with
    | nil => cases sh; cases hs; exact h
    | cons => cases hf
  | cons b bs ih =>
    cases zs with
    | nil => cases hf
    | cons z zs =>
      rw [List.map_cons, List.map_cons, List.cons.injEq] at hf
      exact Steps.popInt hf.1 hs (ih hf.2 rfl h)

theorem Steps.popN {fr : Frame} {n : Nat} {k : List Bytes → Op} {sh : Shared} (items : List Bytes)
    {st : List Bytes} {r : Res} (hl : items.length = n) (hs : sh.stack = items ++ st)
    (h : Steps T L (k items) fr { sh with stack := st } r) : Steps T L (popN n k) fr sh r :=
  hl ▸ steps_of_eq items.length (fun m => runOp_popN T L m fr items st k sh hs) h

end TV
