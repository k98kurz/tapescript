import Tapeverif.Model.Codec
/-! Helper lemmas for the integer codec (C10). Core Lean only. -/
namespace TV

theorem natToBytesBE_length (len n : Nat) : (natToBytesBE len n).length = len := by
  induction len generalizing n with
  | zero => rfl
  | succ k ih => simp [natToBytesBE, ih]

theorem natOfBytesBE_append_single (b : Bytes) (x : UInt8) :
    natOfBytesBE (b ++ [x]) = natOfBytesBE b * 256 + x.toNat := by
  simp [natOfBytesBE, List.foldl_append]

theorem natOf_natTo (len n : Nat) : natOfBytesBE (natToBytesBE len n) = n % 256 ^ len := by
  induction len generalizing n with
  | zero => simp [natToBytesBE, natOfBytesBE, Nat.mod_one]
  | succ k ih =>
    rw [natToBytesBE, natOfBytesBE_append_single, ih, Nat.pow_succ', Nat.mod_mul, UInt8.toNat_ofNat']
    omega

theorem natOf_natTo_of_lt {len n : Nat} (h : n < 256 ^ len) : natOfBytesBE (natToBytesBE len n) = n := by
  rw [natOf_natTo, Nat.mod_eq_of_lt h]

theorem foldl_be (a : Nat) (b : Bytes) :
    b.foldl (fun a x => a * 256 + x.toNat) a = a * 256 ^ b.length + natOfBytesBE b := by
  unfold natOfBytesBE
  induction b generalizing a with
  | nil => simp
  | cons y r ih =>
    simp only [List.foldl_cons, List.length_cons]
    rw [ih (a * 256 + y.toNat), ih (0 * 256 + y.toNat)]
    simp [Nat.pow_succ, Nat.add_mul, Nat.mul_assoc, Nat.add_assoc, Nat.mul_comm 256]

theorem natOfBytesBE_cons (x : UInt8) (b : Bytes) :
    natOfBytesBE (x :: b) = x.toNat * 256 ^ b.length + natOfBytesBE b := by
  conv => lhs; unfold natOfBytesBE
  simp only [List.foldl_cons]
  rw [foldl_be]; simp

/-- numbers whose lower digits stay below `Q` compare by their leading digit -/
theorem mul_add_lt_mul_iff {h r c Q : Nat} (hr : r < Q) : h * Q + r < c * Q ↔ h < c := by
  have hQ := Nat.zero_lt_of_lt hr
  rw [← Nat.div_lt_iff_lt_mul hQ, Nat.mul_comm h Q, Nat.mul_add_div hQ, Nat.div_eq_of_lt hr, Nat.add_zero]

theorem natOfBytesBE_lt (b : Bytes) : natOfBytesBE b < 256 ^ b.length := by
  induction b with
  | nil => exact Nat.one_pos
  | cons y r ih =>
    rw [natOfBytesBE_cons, List.length_cons, Nat.pow_succ', mul_add_lt_mul_iff ih]
    exact y.toNat_lt

theorem lt_two_pow_bitLength (n : Nat) : n < 2 ^ bitLength n := by
  unfold bitLength; split
  · subst_vars; simp
  · exact Nat.lt_log2_self

theorem two_pow_le_of_bitLength (n : Nat) (h : n ≠ 0) : 2 ^ (bitLength n - 1) ≤ n := by
  unfold bitLength; simp [h]; exact Nat.log2_self_le h

theorem pow256 (k : Nat) : 256 ^ k = 2 ^ (k * 8) := by
  rw [show (256:Nat) = 2^8 from rfl, ← Nat.pow_mul, Nat.mul_comm]

theorem natToBytesBE_ne_nil (len n : Nat) (h : 0 < len) : natToBytesBE len n ≠ [] :=
  List.ne_nil_of_length_pos (by rwa [natToBytesBE_length])

theorem two_pow_split {k : Nat} (hk : 0 < k) : 2 ^ (k * 8) = 2 * 2 ^ (k * 8 - 1) := by
  rw [← Nat.pow_add_one', show k * 8 - 1 + 1 = k * 8 by omega]

theorem two_pow_mono {a b : Nat} (h : a ≤ b) : 2 ^ a ≤ 2 ^ b := Nat.pow_le_pow_right (by omega) h

theorem top_bit (n : Nat) : 2 ^ ((n + 1) * 8 - 1) = 128 * 256 ^ n := by
  rw [pow256, show (n + 1) * 8 - 1 = 7 + n * 8 by omega, Nat.pow_add]

/-- `bytes_to_int` reads a non-empty string as a two's-complement number -/
theorem bytesToInt_eq {b : Bytes} (hb : b ≠ []) :
    bytesToInt b = some (if natOfBytesBE b < 2 ^ (b.length * 8 - 1) then (natOfBytesBE b : Int)
      else (natOfBytesBE b : Int) - (2 ^ (b.length * 8) : Nat)) := by
  unfold bytesToInt
  rw [if_neg hb]
  by_cases h : natOfBytesBE b < 2 ^ (b.length * 8 - 1) <;> simp [Nat.div_eq_zero_iff, h]

/-- Head-byte view of `bytes_to_int`: the sign is the top bit of the first byte. -/
theorem bytesToInt_cons (hd : UInt8) (tl : Bytes) :
    bytesToInt (hd :: tl) =
      some (if 128 ≤ hd.toNat
            then ((hd.toNat * 256 ^ tl.length + natOfBytesBE tl : Nat) : Int) - ((256 * 256 ^ tl.length : Nat) : Int)
            else ((hd.toNat * 256 ^ tl.length + natOfBytesBE tl : Nat) : Int)) := by
  rw [bytesToInt_eq (List.cons_ne_nil _ _), natOfBytesBE_cons, List.length_cons, top_bit, ← pow256, Nat.pow_succ']
  have hbit := mul_add_lt_mul_iff (h := hd.toNat) (c := 128) (natOfBytesBE_lt tl)
  by_cases h : hd.toNat < 128
  · rw [if_pos (hbit.2 h), if_neg (Nat.not_le_of_lt h)]
  · rw [if_neg (mt hbit.1 h), if_pos (Nat.le_of_not_lt h)]

/-- reading back the `k` bytes written for a number below `2 ^ (8 k)` -/
theorem bytesToInt_natToBytesBE {k a : Nat} (hk : 0 < k) (ha : a < 2 ^ (k * 8)) :
    bytesToInt (natToBytesBE k a) =
      some (if a < 2 ^ (k * 8 - 1) then (a : Int) else (a : Int) - (2 ^ (k * 8) : Nat)) := by
  rw [bytesToInt_eq (natToBytesBE_ne_nil k a hk), natToBytesBE_length, natOf_natTo_of_lt (pow256 k ▸ ha)]

/-- the number `intToBytes` writes in the `k` bytes it chooses: `|z|`, or `2 ^ (8 k) - |z|` for a negative `z` -/
theorem intToBytes_eq (z : Int) :
    intToBytes z = natToBytesBE (intToBytes z).length
      (if z < 0 then 2 ^ ((intToBytes z).length * 8 - 1) + (2 ^ ((intToBytes z).length * 8 - 1) - z.natAbs)
       else z.natAbs) := by
  by_cases hz : z < 0 <;> simp only [intToBytes, hz, ↓reduceIte, natToBytesBE_length]

theorem intToBytes_length (z : Int) :
    (intToBytes z).length =
      (let a := z.natAbs
       let nbits := if a = 0 then 1 else bitLength a
       let nbytes := (nbits + 7) / 8
       if z < 0 then (if nbits % 8 = 0 ∧ a > 2 ^ (nbytes * 8 - 1) then nbytes + 1 else nbytes)
       else (if nbits % 8 = 0 then nbytes + 1 else nbytes)) := by
  unfold intToBytes
  simp only []
  split <;> simp [natToBytesBE_length]

theorem bitLength_pos {a : Nat} (h : a ≠ 0) : 0 < bitLength a := by
  simp [bitLength, h]

/-- `z` fits in the length `intToBytes` chooses, and not in one byte less -/
theorem intToBytes_length_tight (z : Int) :
    0 < (intToBytes z).length ∧
    (if z < 0 then z.natAbs ≤ 2 ^ ((intToBytes z).length * 8 - 1)
      else z.natAbs < 2 ^ ((intToBytes z).length * 8 - 1)) ∧
    (1 < (intToBytes z).length →
      if z < 0 then 2 ^ (((intToBytes z).length - 1) * 8 - 1) < z.natAbs
      else 2 ^ (((intToBytes z).length - 1) * 8 - 1) ≤ z.natAbs) := by
  rw [intToBytes_length]
  dsimp only
  generalize z.natAbs = a
  by_cases ha : a = 0
  · subst ha; by_cases hz : z < 0 <;> simp [hz]
  have hnb := bitLength_pos ha
  -- `2 ^ (nb - 1) ≤ a < 2 ^ nb`: every claim is one of these two with an exponent that is linear in `nb`
  have up (e : Nat) (h : bitLength a ≤ e) : a < 2 ^ e := Nat.lt_of_lt_of_le (lt_two_pow_bitLength a) (two_pow_mono h)
  have lo (e : Nat) (h : e ≤ bitLength a - 1) : 2 ^ e ≤ a := Nat.le_trans (two_pow_mono h) (two_pow_le_of_bitLength a ha)
  generalize bitLength a = nb at hnb up lo ⊢
  simp only [ha, ↓reduceIte]
  by_cases hz : z < 0 <;> simp only [hz, ↓reduceIte] <;> split
  · next hc =>
    exact ⟨Nat.succ_pos _, Nat.le_of_lt (up _ (by omega)), fun _ => by simpa using hc.2⟩
  · next hc =>
    refine ⟨by omega, ?_, fun hk => Nat.lt_of_lt_of_le (Nat.pow_lt_pow_right (by decide) (by omega)) (lo (nb - 1) (Nat.le_refl _))⟩
    by_cases h8 : nb % 8 = 0
    · exact Nat.le_of_not_lt fun h => hc ⟨h8, h⟩
    · exact Nat.le_of_lt (up _ (by omega))
  · exact ⟨Nat.succ_pos _, up _ (by omega), fun _ => lo _ (by omega)⟩
  · exact ⟨by omega, up _ (by omega), fun _ => lo _ (by omega)⟩

/-- main round trip: by `intToBytes_length_tight` the value fits the chosen length -/
theorem decode_encode (z : Int) : bytesToInt (intToBytes z) = some z := by
  obtain ⟨hk, hfit, -⟩ := intToBytes_length_tight z
  rw [intToBytes_eq]
  generalize (intToBytes z).length = k at hk hfit ⊢
  have h2 := two_pow_split hk
  by_cases hz : z < 0
  · rw [if_pos hz] at hfit ⊢
    rw [bytesToInt_natToBytesBE hk (by omega), if_neg (by omega), h2, Option.some.injEq]
    omega
  · rw [if_neg hz] at hfit ⊢
    rw [bytesToInt_natToBytesBE hk (by omega), if_pos hfit, Option.some.injEq]
    omega

theorem intToBytes_ne_nil (z : Int) : intToBytes z ≠ [] :=
  List.ne_nil_of_length_pos (intToBytes_length_tight z).1

/-- minimality: an integer in the range of `k` bytes is encoded in at most `k` -/
theorem intToBytes_length_le {z : Int} {k : Nat} (hk : 0 < k) (hlo : -((2 ^ (k * 8 - 1) : Nat) : Int) ≤ z)
    (hhi : z < ((2 ^ (k * 8 - 1) : Nat) : Int)) : (intToBytes z).length ≤ k := by
  obtain ⟨-, -, htight⟩ := intToBytes_length_tight z
  generalize (intToBytes z).length = n at htight
  -- one byte less than `n` is too short for `z`, and so is anything shorter
  refine Nat.le_of_not_lt fun hn => ?_
  have hpow := two_pow_mono (show k * 8 - 1 ≤ (n - 1) * 8 - 1 by omega)
  have := htight (by omega)
  split at this <;> omega

end TV
