import Tapeverif.Lemmas.Mono
/-!
# Bookkeeping invariants of the call counters (for an arbitrary op table)

Partial-correctness facts, by induction on fuel, used by the termination proof
(`Lemmas/Term.lean`):

* `WF`: every function id stored in a definition dictionary denotes an existing function object;
* `HP c0 sh sh'`: every function object's call counter in `sh'` is what it was in `sh`, or is
  greater than `c0` — a run that starts with call counter `≥ c0` never lowers a counter to `c0`
  or below;

`APost` adds `FrameLe` (`Lemmas/Kernel.lean`): the frame a run returns is the frame it was started in,
with no more of its tape left and a call counter that did not decrease.
-/
namespace TV

variable (T : UInt8 → Op) (L : Limits)

def WF (sh : Shared) : Prop := ∀ d ∈ sh.dicts, ∀ p ∈ d, p.2 < sh.fns.length

def HP (c0 : Nat) (sh sh' : Shared) : Prop :=
  ∀ id, (sh'.fns.getD id default).count = (sh.fns.getD id default).count ∨ c0 + 1 ≤ (sh'.fns.getD id default).count

/-- the two invariants as a postcondition of a run started in `(fr, sh)` with counter bound `c0`; a frame that comes
    back is the start frame moved forward -/
def APost (c0 : Nat) (fr : Frame) (sh : Shared) : Res → Prop
  | .ok fr' sh' => WF sh' ∧ HP c0 sh sh' ∧ FrameLe fr fr'
  | .err _ sh' => WF sh' ∧ HP c0 sh sh'

theorem HP.refl (c0 : Nat) (sh : Shared) : HP c0 sh sh := fun _ => Or.inl rfl

theorem HP.trans {c0 : Nat} {a b c : Shared} (h1 : HP c0 a b) (h2 : HP c0 b c) : HP c0 a c := by
  intro id
  rcases h2 id with h | h
  · rcases h1 id with h' | h'
    · exact Or.inl (h.trans h')
    · exact Or.inr (h ▸ h')
  · exact Or.inr h

theorem HP.mono {a b : Nat} (h : a ≤ b) {sh sh' : Shared} (hp : HP b sh sh') : HP a sh sh' := by
  intro id
  rcases hp id with h' | h'
  · exact Or.inl h'
  · exact Or.inr (by omega)

theorem HP.of_fns_eq {c0 : Nat} {sh sh' : Shared} (h : sh'.fns = sh.fns) : HP c0 sh sh' := by
  intro id; rw [h]; exact Or.inl rfl

/-- the counter a frame sees stays at or above `c0` while no counter is lowered to `c0` (`HP`) and the frame only moves forward -/
theorem count_keep {c0 : Nat} {fr fr' : Frame} {sh sh' : Shared}
    (hc : c0 ≤ getCount fr sh) (hp : HP c0 sh sh') (hf : FrameLe fr fr') : c0 ≤ getCount fr' sh' := by
  unfold getCount at *
  rw [hf.fn]
  cases hfn : fr.fn with
  | none => rw [hfn] at hc; exact Nat.le_trans hc hf.count_le
  | some id =>
    rw [hfn] at hc
    show c0 ≤ (sh'.fns.getD id default).count
    rcases hp id with h | h
    · rw [h]; exact hc
    · omega

theorem APost.trans {c0 : Nat} {fr fr1 : Frame} {sh sh1 : Shared} {r : Res}
    (hp : HP c0 sh sh1) (hf : FrameLe fr fr1) (h : APost c0 fr1 sh1 r) : APost c0 fr sh r := by
  cases r with
  | ok f s => exact ⟨h.1, hp.trans h.2.1, hf.trans h.2.2⟩
  | err e s => exact ⟨h.1, hp.trans h.2⟩

theorem apost_err {c0 : Nat} {fr : Frame} {sh sh' : Shared} (e : Err) (hw : WF sh') (hp : HP c0 sh sh') :
    APost c0 fr sh (.err e sh') := ⟨hw, hp⟩

theorem WF.of_eq {sh sh' : Shared} (hd : sh'.dicts = sh.dicts) (hf : sh'.fns = sh.fns) (h : WF sh) : WF sh' := by
  unfold WF at *; rw [hd, hf]; exact h

theorem setFnCount_length (sh : Shared) (id c : Nat) : (setFnCount sh id c).fns.length = sh.fns.length := by
  simp [setFnCount]

theorem WF.setFnCount {sh : Shared} (id c : Nat) (h : WF sh) : WF (setFnCount sh id c) := by
  intro d hd p hp
  rw [setFnCount_length]
  exact h d hd p hp

theorem setFnCount_getD (sh : Shared) (id c j : Nat) :
    (setFnCount sh id c).fns.getD j default =
      if j = id ∧ id < sh.fns.length then { sh.fns.getD j default with count := c } else sh.fns.getD j default := by
  simp only [setFnCount, List.getD_eq_getElem?_getD, List.getElem?_set, eq_comm (a := id)]
  by_cases hj : j = id <;> by_cases hl : id < sh.fns.length <;> simp [hj, hl]

theorem HP.setFnCount {c0 : Nat} (sh : Shared) (id c : Nat) (hc : c0 + 1 ≤ c) : HP c0 sh (setFnCount sh id c) := by
  intro j
  rw [setFnCount_getD]
  split
  · exact Or.inr hc
  · exact Or.inl rfl

/-- the dictionary at any index (the empty one past the end) holds existing functions only -/
theorem WF.getD {sh : Shared} (hw : WF sh) (d : Nat) : ∀ p ∈ sh.dicts.getD d [], p.2 < sh.fns.length := by
  intro p hp
  rw [List.getD_eq_getElem?_getD] at hp
  cases hg : sh.dicts[d]? with
  | none => simp [hg] at hp
  | some y => rw [hg] at hp; exact hw y (List.mem_of_getElem? hg) p hp

theorem WF.copyDict {sh : Shared} (d : Nat) (h : WF sh) : WF (copyDict sh d).2 := by
  intro x hx p hp
  rcases List.mem_append.mp hx with hx | hx
  · exact h x hx p hp
  · exact h.getD d p (List.mem_singleton.mp hx ▸ hp)

theorem WF.define {sh : Shared} (d : Nat) (h : UInt8) (body : Bytes) (hw : WF sh) :
    WF { sh with fns := sh.fns ++ [{ body := body, dict := d, count := 0 }],
                 dicts := sh.dicts.set d ((h, sh.fns.length) :: sh.dicts.getD d []) } := by
  intro x hx p hp
  show p.2 < (sh.fns ++ [_]).length
  rw [List.length_append, List.length_singleton]
  rcases List.mem_or_eq_of_mem_set hx with hx | rfl
  · exact Nat.lt_succ_of_lt (hw x hx p hp)
  · rcases List.mem_cons.mp hp with rfl | hp
    · exact Nat.lt_succ_self _
    · exact Nat.lt_succ_of_lt (hw.getD d p hp)

theorem HP.define {c0 : Nat} (sh : Shared) (d : Nat) (body : Bytes) (ds : List (List (UInt8 × Nat))) :
    HP c0 sh { sh with fns := sh.fns ++ [{ body := body, dict := d, count := 0 }], dicts := ds } := by
  intro j
  left
  simp only [List.getD_eq_getElem?_getD]
  rcases Nat.lt_or_ge j sh.fns.length with hj | hj
  · rw [List.getElem?_append_left hj]
  · -- past the end of the old list the count read is that of `default`, 0, like the new object's
    rw [List.getElem?_append_right hj, List.getElem?_eq_none hj]
    cases j - sh.fns.length <;> rfl

theorem getCount_of_fns {fr : Frame} {sh sh' : Shared} (h : sh'.fns = sh.fns) : getCount fr sh' = getCount fr sh := by
  unfold getCount; rw [h]

theorem lookupDef_mem {h : UInt8} {d : List (UInt8 × Nat)} {id : Nat} (hl : lookupDef h d = some id) : (h, id) ∈ d := by
  induction d with
  | nil => simp [lookupDef] at hl
  | cons p r ih =>
    obtain ⟨h', id'⟩ := p
    simp only [lookupDef] at hl
    split at hl
    · next heq => cases hl; subst heq; simp
    · exact List.mem_cons_of_mem _ (ih hl)

theorem WF.lookup {sh : Shared} (hw : WF sh) {h : UInt8} {d id : Nat} (hl : lookupDef h (sh.dicts.getD d []) = some id) :
    id < sh.fns.length :=
  hw.getD d _ (lookupDef_mem hl)

/-- sequencing: `X` is the outcome of a nested run started in `(frB, sh1)` with counter bound `c1` -/
theorem APost.bind {c0 c1 : Nat} {fr frB : Frame} {sh sh1 : Shared} {X : Res} {g : Frame → Shared → Res}
    (hX : APost c1 frB sh1 X) (h01 : c0 ≤ c1) (hp : HP c0 sh sh1)
    (hg : ∀ f s, WF s → HP c0 sh s → FrameLe frB f → APost c0 fr sh (g f s)) : APost c0 fr sh (X.bind g) := by
  cases X with
  | err e s => exact ⟨hX.1, hp.trans (hX.2.mono h01)⟩
  | ok f s => exact hg f s hX.1 (hp.trans (hX.2.1.mono h01)) hX.2.2

theorem Prim.counts {L : Limits} {op k : Op} {fr fr' : Frame} {sh sh' : Shared} (c0 : Nat)
    (h : Prim L op fr sh k fr' sh') (hw : WF sh) : WF sh' ∧ HP c0 sh sh' := by
  cases h with
  | define => exact ⟨hw.define _ _ _, .define _ _ _ _⟩
  | cacheGet => split <;> exact ⟨hw, .of_fns_eq rfl⟩
  | _ => exact ⟨hw, .of_fns_eq rfl⟩

/-- what `setCount … (c + 1)` does to the caller's side -/
theorem setCount_spec {c0 : Nat} (fr : Frame) (sh : Shared) (hw : WF sh) (hc : c0 ≤ getCount fr sh) :
    ∃ fr1 sh1, setCount fr sh (getCount fr sh + 1) = (fr1, sh1) ∧ WF sh1 ∧ HP c0 sh sh1 ∧ FrameLe fr fr1 := by
  refine ⟨_, _, rfl, ?_, ?_, setCount_frameLe fr sh⟩ <;> split
  · exact hw
  · exact hw.setFnCount _ _
  · exact .refl _ _
  · exact .setFnCount sh _ _ (by omega)

/-- the counter the called function's activation sees -/
theorem getCount_callee (frB : Frame) (sh1 : Shared) (id c : Nat) (hfn : frB.fn = some id) (hid : id < sh1.fns.length) :
    getCount frB (setFnCount sh1 id c) = c := by
  unfold getCount
  rw [hfn]
  show ((setFnCount sh1 id c).fns.getD id default).count = c
  rw [setFnCount_getD, if_pos ⟨rfl, hid⟩]

theorem counts_main (fuel : Nat) :
    (∀ op fr sh c0, WF sh → c0 ≤ getCount fr sh → APost c0 fr sh (runOp T L fuel op fr sh)) ∧
    (∀ budget lc body k fr sh c0, WF sh → c0 ≤ getCount fr sh → c0 ≤ lc →
        APost c0 fr sh (runLoop T L fuel budget lc body k fr sh)) ∧
    (∀ fr sh c0, WF sh → c0 ≤ getCount fr sh → APost c0 fr sh (runTape T L fuel fr sh)) := by
  induction fuel with
  | zero =>
    refine ⟨?_, ?_, ?_⟩ <;> intros <;> simp only [runOp_zero, runLoop_zero, runTape_zero] <;> exact apost_err _ (by assumption) (.refl _ _)
  | succ n ih =>
    obtain ⟨ihO, ihL, ihT⟩ := ih
    -- go on with `k` in a later frame and state of the same run
    have goOn : ∀ {fr sh c0} k fr1 s, c0 ≤ getCount fr sh → WF s → HP c0 sh s → FrameLe fr fr1 →
        APost c0 fr sh (runOp T L n k fr1 s) :=
      fun k fr1 s hc hw hp hf => APost.trans hp hf (ihO k fr1 s _ hw (count_keep hc hp hf))
    have after : ∀ {fr sh c0} k s, c0 ≤ getCount fr sh → WF s → HP c0 sh s →
        APost c0 fr sh (afterBody T L n k fr s) := by
      intro fr sh c0 k s hc hw hp
      unfold afterBody
      split
      · exact ⟨hw, hp, .endFrame fr⟩
      · exact goOn k fr s hc hw hp (.refl fr)
    refine ⟨?_, ?_, ?_⟩
    · intro op fr sh c0 hw hc
      cases shape L op fr sh with
      | done => exact ⟨hw, .refl _ _, .refl _⟩
      | ret => exact ⟨hw, .refl _ _, .endFrame fr⟩
      | abort => exact apost_err _ hw (.refl _ _)
      | raises h => rw [runOp_raises T h]; exact apost_err _ hw (.refl _ _)
      | prim h =>
        rw [runOp_prim T h]
        obtain ⟨hw', hp⟩ := h.counts c0 hw
        exact goOn _ _ _ hc hw' hp h.frameLe
      | @inline body =>
        rw [runOp_inline]
        exact (ihT (inlineFrame body fr sh) _ c0 (hw.copyDict fr.dict) hc).bind (Nat.le_refl _) (.of_fns_eq rfl)
          fun _ s hw' hp _ => after _ s hc hw' hp
      | @eval _ body _ _ _ hlt =>
        rw [runOp_eval T hlt]
        refine (ihT (evalFrame body _ _) _ (c0 + 1) (hw.copyDict fr.dict) (Nat.succ_le_succ hc)).bind (Nat.le_succ _) (.of_fns_eq rfl)
          fun f s hw' hp _ => ?_
        split
        · exact ⟨hw', hp, .endFrame fr⟩
        · exact goOn _ fr { s with returned := false } hc hw' hp (.refl fr)
      | @call h k _ _ hlt =>
        rw [runOp_call T hlt]
        obtain ⟨fr1, sh1, hsc, hw1, hp1, hf1⟩ := setCount_spec (c0 := c0) fr sh hw hc
        simp only [hsc]
        split
        · exact ⟨hw1, hp1⟩
        · next id hid =>
          refine (ihT (callFrame _ id _) _ (c0 + 1) (hw1.setFnCount id _) ?_).bind (Nat.le_succ _)
            (hp1.trans (.setFnCount sh1 id _ (Nat.succ_le_succ hc))) fun f s hw' hp _ => ?_
          · rw [getCount_callee _ sh1 id _ rfl (hw1.lookup hid)]; exact Nat.succ_le_succ hc
          · exact goOn k fr1 { s with returned := false } hc hw' hp hf1
      | @tryCatch body exc k =>
        rw [runOp_tryCatch]
        have h1 := ihT (inlineFrame body fr sh) _ c0 (hw.copyDict fr.dict) hc
        split
        · next heq => rw [heq] at h1; exact after k _ hc h1.1 h1.2.1
        · next ek s heq =>
          rw [heq] at h1
          have hp : HP c0 sh (caught ek s) := h1.2
          exact (ihT (inlineFrame exc fr _) _ c0 (WF.copyDict (sh := caught ek s) fr.dict h1.1)
            (show c0 ≤ getCount fr (caught ek s) from count_keep hc hp (.refl fr))).bind
            (Nat.le_refl _) hp fun _ s hw' hp' _ => after k s hc hw' hp'
        · next heq => rw [heq] at h1; exact ⟨h1.1, h1.2⟩
      | loop hs => rw [runOp_loop T hs]; exact ihL _ _ _ _ _ _ c0 hw hc hc
    · intro budget lc body k fr sh c0 hw hc hlc
      cases loopShape budget sh with
      | empty hs => rw [runLoop_empty T hs]; exact apost_err _ hw (.refl _ _)
      | exit hs ht => rw [runLoop_exit T hs ht]; exact ihO _ _ _ c0 hw hc
      | spent hs ht => rw [runLoop_spent T hs ht]; exact apost_err _ hw (.refl _ _)
      | iter hs ht =>
        rw [runLoop_iter T hs ht]
        refine (ihT (loopFrame body lc fr) sh c0 hw hlc).bind (Nat.le_refl _) (.refl _ _) fun f s hw' hp hf => ?_
        split
        · exact ⟨hw', hp, .endFrame fr⟩
        · exact APost.trans hp (.refl fr)
            (ihL _ f.count body k fr s c0 hw' (count_keep hc hp (.refl fr)) (Nat.le_trans hlc hf.count_le))
    · intro fr sh c0 hw hc
      cases tapeShape fr sh with
      | nil h => rw [runTape_nil T h]; exact ⟨hw, .refl _ _, .refl fr⟩
      | guard h hcap => rw [runTape_guard T h hcap]; exact apost_err _ hw (.refl _ _)
      | ghost h hcap hr => rw [runTape_ghost T h hcap hr]; exact apost_err _ hw (.refl _ _)
      | @fetch c rest h hcap hr =>
        rw [runTape_cons T h hcap hr]
        have hfr : FrameLe fr { fr with rest := rest } := .rest (by simp [h])
        refine (ihO (T c) { fr with rest := rest } sh c0 hw hc).bind (Nat.le_refl _) (.refl _ _) fun f s hw' hp hf => ?_
        exact APost.trans hp (hfr.trans hf) (ihT f s c0 hw' (count_keep hc hp (hfr.trans hf)))

end TV
