import Tapeverif.Lemmas.InstrSteps
/-! # Head-of-tape rules

`Ends`, the outcome of a whole run; `run_instr` and `TSteps.last`, one fetch–execute step at the head and at the end
of a tape; and, one per instruction the lock builders use, the rule of `InstrSteps` read at the head of a tape under the
real op table: "if the tape starts with these bytes and the stack has this shape, the run continues from exactly this
state". -/
namespace TV
open Instr Tools

/-- what a run amounts to for the verdict: the final stack, or the error -/
def Res.summary : Res → Except Err (List Bytes)
  | .ok _ sh => .ok sh.stack
  | .err e _ => .error e

theorem Res.summary_err (e : Err) (s : Shared) : Res.summary (.err e s) = .error e := rfl

theorem summary_wrapInline (fr : Frame) (r : Res) : Res.summary (wrapInline fr r) = Res.summary r := by
  cases r with
  | err e s => rfl
  | ok f s => simp only [wrapInline]; split <;> rfl

theorem summary_wrapEval (er : Bool) (g : Frame) (r : Res) : Res.summary (wrapEval er g r) = Res.summary r := by
  cases r with
  | err e s => rfl
  | ok f s => simp only [wrapEval]; split <;> rfl

/-- "the run from `(fr, sh)` ends, and its outcome satisfies `P`" -/
def Ends (T : UInt8 → Op) (L : Limits) (fr : Frame) (sh : Shared) (P : Res → Prop) : Prop :=
  ∃ r, TSteps T L fr sh r ∧ P r

theorem Ends.step {T : UInt8 → Op} {L : Limits} {fr fr' : Frame} {sh sh' : Shared} {P : Res → Prop}
    (h : ∀ r, TSteps T L fr' sh' r → TSteps T L fr sh r) (h2 : Ends T L fr' sh' P) : Ends T L fr sh P := by
  obtain ⟨r, hr, hp⟩ := h2
  exact ⟨r, h r hr, hp⟩

theorem Ends.imp {T : UInt8 → Op} {L : Limits} {fr : Frame} {sh : Shared} {P Q : Res → Prop}
    (h : Ends T L fr sh P) (hPQ : ∀ r, P r → Q r) : Ends T L fr sh Q :=
  let ⟨r, hr, hp⟩ := h; ⟨r, hr, hPQ r hp⟩

theorem Ends.tsteps {T : UInt8 → Op} {L : Limits} {fr : Frame} {sh : Shared} {r : Res} (h : Ends T L fr sh (· = r)) :
    TSteps T L fr sh r :=
  let ⟨_, hr, he⟩ := h; he ▸ hr

/-- runs are deterministic: once the run is known to end with summary `spec`, "some run ends with `out`" is
    a statement about `spec` -/
theorem Ends.summary_iff {T : UInt8 → Op} {L : Limits} {fr : Frame} {sh : Shared} {spec out : Except Err (List Bytes)}
    (h : Ends T L fr sh (fun r => Res.summary r = spec)) :
    (∃ r, TSteps T L fr sh r ∧ Res.summary r = out) ↔ spec = out := by
  obtain ⟨r0, hr0, hsum⟩ := h
  refine ⟨fun ⟨r, hrun, hok⟩ => ?_, fun ho => ⟨r0, hr0, hsum.trans ho⟩⟩
  rw [← hsum, ← TSteps.det hrun hr0, hok]

/-- a generic head-of-tape rule: fetch opcode `c`, run its op term on the remaining tape -/
theorem run_instr {T : UInt8 → Op} {L : Limits} (fr fr' : Frame) (sh sh' : Shared) (c : UInt8) (tl : Bytes) (r : Res)
    (hrest : fr.rest = c :: tl) (hcap : fr.len0 < fr.cap) (hr : sh.returned = false)
    (h1 : Steps T L (T c) { fr with rest := tl } sh (.ok fr' sh'))
    (h2 : TSteps T L fr' sh' r) : TSteps T L fr sh r :=
  .cons c tl hrest hcap hr h1 h2.settles

/-- the last instruction of a tape: the tape ends as the instruction does, if that leaves nothing to run -/
theorem TSteps.last {T : UInt8 → Op} {L : Limits} {fr : Frame} {sh : Shared} {rO : Res} (c : UInt8) (ops : Bytes)
    (hrest : fr.rest = c :: ops) (hcap : fr.len0 < fr.cap) (hr : sh.returned = false)
    (h : Steps T L (T c) { fr with rest := ops } sh rO) (hend : ∀ f s, rO = .ok f s → f.rest = []) :
    TSteps T L fr sh rO :=
  .cons c ops hrest hcap hr h (by
    cases rO with
    | err e s => exact .const h.settles.1
    | ok f s => exact (TSteps.nil (hend f s rfl)).settles)

/-- a tape consisting of one instruction whose outcome is an `eval` outcome seen from a frame
    with nothing left to run -/
theorem tape_single {T : UInt8 → Op} {L : Limits} (fr : Frame) (sh : Shared) (c : UInt8) (ops : Bytes) (g : Frame)
    (hg : g.rest = []) (er : Bool) (rL : Res)
    (hrest : fr.rest = c :: ops) (hcap : fr.len0 < fr.cap) (hr : sh.returned = false)
    (h : Steps T L (T c) { fr with rest := ops } sh (wrapEval er g rL)) :
    TSteps T L fr sh (wrapEval er g rL) :=
  .last c ops hrest hcap hr h (by
    intro f s' he
    cases rL with
    | err e s => cases he
    | ok f0 s0 =>
      simp only [wrapEval] at he
      split at he <;> cases he
      · rfl
      · exact hg)

theorem ifElse_bytes (a b rest : Bytes) :
    ifElse a b ++ rest = 44 :: (u2 a.length ++ (a ++ (u2 b.length ++ (b ++ rest)))) := by
  simp [ifElse, opc, List.append_assoc]

/-- one `OP_PUSH0/1/2` instruction as the compiler emits it for `v`, at the head of a tape -/
theorem run_pushB (H : Hashes) (C : Curve) (cfg : Cfg) (fr : Frame) (sh : Shared) (v rest' : Bytes) (r : Res)
    (hv0 : 0 < v.length) (hv1 : v.length < 65536)
    (hrest : fr.rest = pushB v ++ rest') (hcap : fr.len0 < fr.cap) (hr : sh.returned = false)
    (hsz : v.length ≤ cfg.lim.maxItemSize) (hroom : sh.stack.length < cfg.lim.maxItems)
    (h : TSteps (instrTable H C cfg) cfg.lim { fr with rest := rest' } { sh with stack := v :: sh.stack } r) :
    TSteps (instrTable H C cfg) cfg.lim fr sh r := by
  unfold pushB pushBytes at hrest
  by_cases h1 : v.length = 1
  · simp only [h1, ↓reduceIte, Option.getD_some, opc] at hrest
    exact run_instr fr _ sh _ 2 _ r (by simpa using hrest) hcap hr (.opPush0 h1 rfl hsz hroom (.done _ _)) h
  · by_cases h2 : v.length < 256
    · simp only [h1, ↓reduceIte, show 1 < v.length ∧ v.length < 256 from ⟨by omega, h2⟩, and_self, Option.getD_some, opc] at hrest
      exact run_instr fr _ sh _ 3 _ r (by simpa [List.append_assoc] using hrest) hcap hr (.opPush1 h2 rfl hsz hroom (.done _ _)) h
    · simp only [h1, ↓reduceIte, show ¬ (1 < v.length ∧ v.length < 256) by omega,
        show 255 < v.length ∧ v.length < 65536 from ⟨by omega, hv1⟩, and_self, Option.getD_some, opc] at hrest
      exact run_instr fr _ sh _ 4 _ r (by simpa [List.append_assoc, u2] using hrest) hcap hr (.opPush2 hv1 rfl hsz hroom (.done _ _)) h

variable (H : Hashes) (C : Curve) (cfg : Cfg)

theorem run_dup (fr : Frame) (sh : Shared) (rest' : Bytes) (x : Bytes) (st : List Bytes) (r : Res)
    (hrest : fr.rest = DUP ++ rest') (hcap : fr.len0 < fr.cap) (hr : sh.returned = false)
    (hs : sh.stack = x :: st) (hsz : x.length ≤ cfg.lim.maxItemSize) (hroom : st.length + 1 < cfg.lim.maxItems)
    (h : TSteps (instrTable H C cfg) cfg.lim { fr with rest := rest' } { sh with stack := x :: x :: st } r) :
    TSteps (instrTable H C cfg) cfg.lim fr sh r :=
  run_instr fr _ sh _ 29 rest' r hrest hcap hr (.opDup hs hsz hroom (.done _ _)) h

theorem run_swap2 (fr : Frame) (sh : Shared) (rest' : Bytes) (a b : Bytes) (st : List Bytes) (r : Res)
    (hrest : fr.rest = SWAP2 ++ rest') (hcap : fr.len0 < fr.cap) (hr : sh.returned = false)
    (hs : sh.stack = a :: b :: st) (ha : a.length ≤ cfg.lim.maxItemSize) (hb : b.length ≤ cfg.lim.maxItemSize)
    (hroom : st.length + 1 < cfg.lim.maxItems)
    (h : TSteps (instrTable H C cfg) cfg.lim { fr with rest := rest' } { sh with stack := b :: a :: st } r) :
    TSteps (instrTable H C cfg) cfg.lim fr sh r :=
  run_instr fr _ sh _ 53 rest' r hrest hcap hr (.opSwap2 hs ha hb hroom (.done _ _)) h

theorem run_not (fr : Frame) (sh : Shared) (rest' : Bytes) (x : Bytes) (st : List Bytes) (r : Res)
    (hrest : fr.rest = opc NOT ++ rest') (hcap : fr.len0 < fr.cap) (hr : sh.returned = false)
    (hs : sh.stack = x :: st) (hsz : x.length ≤ cfg.lim.maxItemSize) (hroom : st.length < cfg.lim.maxItems)
    (h : TSteps (instrTable H C cfg) cfg.lim { fr with rest := rest' } { sh with stack := notBytes x :: st } r) :
    TSteps (instrTable H C cfg) cfg.lim fr sh r :=
  run_instr fr _ sh _ 46 rest' r hrest hcap hr (.opNot hs hsz hroom (.done _ _)) h

theorem run_verify_true (fr : Frame) (sh : Shared) (rest' : Bytes) (x : Bytes) (st : List Bytes) (r : Res)
    (hrest : fr.rest = opc VERIFY ++ rest') (hcap : fr.len0 < fr.cap) (hr : sh.returned = false)
    (hs : sh.stack = x :: st) (hx : truthy x = true)
    (h : TSteps (instrTable H C cfg) cfg.lim { fr with rest := rest' } { sh with stack := st } r) :
    TSteps (instrTable H C cfg) cfg.lim fr sh r :=
  run_instr fr _ sh _ 32 rest' r hrest hcap hr (.opVerify_true hs hx (.done _ _)) h

theorem run_split (fr : Frame) (sh : Shared) (rest' : Bytes) (idx : Nat) (ib item : Bytes) (st : List Bytes) (r : Res)
    (hrest : fr.rest = SPLIT ++ rest') (hcap : fr.len0 < fr.cap) (hr : sh.returned = false)
    (hs : sh.stack = ib :: item :: st) (hib : bytesToInt ib = some (idx : Int)) (hidx : idx < item.length)
    (hsz : item.length ≤ cfg.lim.maxItemSize) (hroom : st.length + 1 < cfg.lim.maxItems)
    (h : TSteps (instrTable H C cfg) cfg.lim { fr with rest := rest' }
          { sh with stack := item.drop idx :: item.take idx :: st } r) :
    TSteps (instrTable H C cfg) cfg.lim fr sh r :=
  run_instr fr _ sh _ 56 rest' r hrest hcap hr (.opSplit hs hib hidx hsz hroom (.done _ _)) h

theorem run_writeCache1 (fr : Frame) (sh : Shared) (rest' kb : Bytes) (x : Bytes) (st : List Bytes) (r : Res)
    (hrest : fr.rest = 9 :: UInt8.ofNat kb.length :: (kb ++ 1 :: rest')) (hkl : kb.length < 256) (hk : kb ≠ eKey)
    (hcap : fr.len0 < fr.cap) (hr : sh.returned = false) (hs : sh.stack = x :: st)
    (h : TSteps (instrTable H C cfg) cfg.lim { fr with rest := rest' }
          { sh with stack := st, cache := (.byt kb, .list [.bytes x]) :: sh.cache } r) :
    TSteps (instrTable H C cfg) cfg.lim fr sh r :=
  run_instr fr _ sh _ 9 _ r hrest hcap hr (.opWriteCache1 hkl hk rfl hs (.done _ _)) h

theorem run_readCache1 (fr : Frame) (sh : Shared) (rest' kb : Bytes) (x : Bytes) (r : Res)
    (hrest : fr.rest = 10 :: UInt8.ofNat kb.length :: (kb ++ rest')) (hkl : kb.length < 256) (hk : kb ≠ eKey)
    (hcap : fr.len0 < fr.cap) (hr : sh.returned = false)
    (hv : lookupC (.byt kb) sh.cache = some (.list [.bytes x]))
    (hsz : x.length ≤ cfg.lim.maxItemSize) (hroom : sh.stack.length < cfg.lim.maxItems)
    (h : TSteps (instrTable H C cfg) cfg.lim { fr with rest := rest' } { sh with stack := x :: sh.stack } r) :
    TSteps (instrTable H C cfg) cfg.lim fr sh r :=
  run_instr fr _ sh _ 10 _ r hrest hcap hr (.opReadCache1 hkl hk rfl hv hsz hroom (.done _ _)) h

theorem run_css (fr : Frame) (sh : Shared) (rest' : Bytes) (vkey m sig : Bytes) (st : List Bytes) (r : Res)
    (hrest : fr.rest = CSS ++ rest') (hcap : fr.len0 < fr.cap) (hr : sh.returned = false)
    (hs : sh.stack = vkey :: m :: sig :: st) (hv : vkey.length = 32) (hsl : sig.length = 64)
    (h1 : 1 ≤ cfg.lim.maxItemSize) (hroom : st.length < cfg.lim.maxItems)
    (h : TSteps (instrTable H C cfg) cfg.lim { fr with rest := rest' }
          { sh with stack := boolBytes (Sodium.verify H C vkey m sig) :: st } r) :
    TSteps (instrTable H C cfg) cfg.lim fr sh r :=
  run_instr fr _ sh _ 74 rest' r hrest hcap hr (.opCheckSigStack hs hv hsl h1 hroom (.done _ _)) h

theorem run_cts (fr : Frame) (sh : Shared) (rest' : Bytes) (c : Bytes) (st : List Bytes) (t thr : Int) (r : Res)
    (hrest : fr.rest = opc CTS ++ rest') (hcap : fr.len0 < fr.cap) (hr : sh.returned = false)
    (hs : sh.stack = c :: st) (hc : c ≠ [])
    (ht : lookupC C16.tsKey sh.cache = some (.atom (.int t))) (hthr : cfg.tsThreshold = some thr)
    (h1 : 1 ≤ cfg.lim.maxItemSize) (hroom : st.length < cfg.lim.maxItems)
    (h : TSteps (instrTable H C cfg) cfg.lim { fr with rest := rest' }
          { sh with stack := boolBytes (C16.tsAccept t cfg.now thr c) :: st } r) :
    TSteps (instrTable H C cfg) cfg.lim fr sh r :=
  run_instr fr _ sh _ 37 rest' r hrest hcap hr (.opCheckTimestamp hs hc ht hthr h1 hroom (.done _ _)) h

theorem run_ctsv_ok (fr : Frame) (sh : Shared) (rest' : Bytes) (c : Bytes) (st : List Bytes) (t thr : Int) (r : Res)
    (hrest : fr.rest = opc CTSV ++ rest') (hcap : fr.len0 < fr.cap) (hr : sh.returned = false)
    (hs : sh.stack = c :: st) (hc : c ≠ [])
    (ht : lookupC C16.tsKey sh.cache = some (.atom (.int t))) (hthr : cfg.tsThreshold = some thr)
    (h1 : 1 ≤ cfg.lim.maxItemSize) (hroom : st.length < cfg.lim.maxItems)
    (hacc : C16.tsAccept t cfg.now thr c = true)
    (h : TSteps (instrTable H C cfg) cfg.lim { fr with rest := rest' } { sh with stack := st } r) :
    TSteps (instrTable H C cfg) cfg.lim fr sh r :=
  run_instr fr _ sh _ 38 rest' r hrest hcap hr
    (.opCheckTimestamp hs hc ht hthr h1 hroom (.opVerify_true rfl (by rw [hacc]; rfl) (.done _ _))) h

/-- `OP_CHECK_SIG <allowed>` as the last instruction of a tape, no signature-extension plugin:
    the tape ends with exactly the C02 specification's verdict on the stack, or with its error -/
theorem run_checksig_last (hno : cfg.sigExts = []) (fr : Frame) (sh : Shared) (flags : Nat) (vkey sig : Bytes) (st : List Bytes)
    (hrest : fr.rest = CHECK_SIG flags) (hfl : flags < 256) (hcap : fr.len0 < fr.cap) (hr : sh.returned = false)
    (hs : sh.stack = vkey :: sig :: st) (h1 : 1 ≤ cfg.lim.maxItemSize) (hroom : st.length < cfg.lim.maxItems) :
    TSteps (instrTable H C cfg) cfg.lim fr sh
      (match SigPure.checkSig H C cfg.lim.maxItemSize sh.cache flags sig vkey with
       | .ok b => .ok { fr with rest := [] } { sh with stack := boolBytes b :: st }
       | .error e => .err (.user e) { sh with stack := st }) := by
  refine .last 35 [UInt8.ofNat flags] hrest hcap hr ?_ (by intro f s he; split at he <;> cases he; rfl)
  show Steps _ _ (opCheckSig H C cfg .done) _ _ _
  rw [opCheckSig, sigExt_nil hno]
  exact .readU1 hfl rfl (.checkSigCore_done hs h1 hroom)

/-- `OP_IF_ELSE` whose chosen body ends normally (no RETURN): continue after the construct -/
theorem run_ifelse_ok (fr fr' : Frame) (sh sh' : Shared) (rest' a b c : Bytes) (st : List Bytes) (r : Res)
    (hrest : fr.rest = ifElse a b ++ rest') (ha : a.length < 65536) (hb : b.length < 65536)
    (hcap : fr.len0 < fr.cap) (hr : sh.returned = false) (hs : sh.stack = c :: st)
    (hbody : TSteps (instrTable H C cfg) cfg.lim
        (inlineFrame (if truthy c then a else b) { fr with rest := rest' } { sh with stack := st })
        (copyDict { sh with stack := st } fr.dict).2 (.ok fr' sh'))
    (hret : sh'.returned = false)
    (h : TSteps (instrTable H C cfg) cfg.lim { fr with rest := rest' } sh' r) :
    TSteps (instrTable H C cfg) cfg.lim fr sh r :=
  run_instr fr _ sh _ 44 _ r (hrest.trans (ifElse_bytes a b rest')) hcap hr
    (.opIfElse ha hb rfl hs (.sub_inline_ok hbody hret (.done _ _))) h

theorem run_sha256 (fr : Frame) (sh : Shared) (rest' : Bytes) (x : Bytes) (st : List Bytes) (r : Res)
    (hrest : fr.rest = SHA256 ++ rest') (hcap : fr.len0 < fr.cap) (hr : sh.returned = false)
    (hs : sh.stack = x :: st) (hsz : (H.sha256 x).length ≤ cfg.lim.maxItemSize) (hroom : st.length < cfg.lim.maxItems)
    (h : TSteps (instrTable H C cfg) cfg.lim { fr with rest := rest' } { sh with stack := H.sha256 x :: st } r) :
    TSteps (instrTable H C cfg) cfg.lim fr sh r :=
  run_instr fr _ sh _ 30 rest' r hrest hcap hr (.opSha256 hs hsz hroom (.done _ _)) h

theorem run_shake256 (fr : Frame) (sh : Shared) (rest' : Bytes) (n : Nat) (x : Bytes) (st : List Bytes) (r : Res)
    (hrest : fr.rest = SHAKE256 n ++ rest') (hn : n < 256) (hcap : fr.len0 < fr.cap) (hr : sh.returned = false)
    (hs : sh.stack = x :: st) (hsz : (H.shake256 x n).length ≤ cfg.lim.maxItemSize) (hroom : st.length < cfg.lim.maxItems)
    (h : TSteps (instrTable H C cfg) cfg.lim { fr with rest := rest' } { sh with stack := H.shake256 x n :: st } r) :
    TSteps (instrTable H C cfg) cfg.lim fr sh r :=
  run_instr fr _ sh _ 31 _ r hrest hcap hr (.opShake256 hn rfl hs hsz hroom (.done _ _)) h

theorem run_equal (fr : Frame) (sh : Shared) (rest' : Bytes) (a b : Bytes) (st : List Bytes) (r : Res)
    (hrest : fr.rest = EQUAL ++ rest') (hcap : fr.len0 < fr.cap) (hr : sh.returned = false)
    (hs : sh.stack = a :: b :: st) (h1 : 1 ≤ cfg.lim.maxItemSize) (hroom : st.length < cfg.lim.maxItems)
    (h : TSteps (instrTable H C cfg) cfg.lim { fr with rest := rest' } { sh with stack := boolBytes (a == b) :: st } r) :
    TSteps (instrTable H C cfg) cfg.lim fr sh r :=
  run_instr fr _ sh _ 33 rest' r hrest hcap hr (.opEqual hs h1 hroom (.done _ _)) h

theorem run_equal_verify_ok (fr : Frame) (sh : Shared) (rest' : Bytes) (a b : Bytes) (st : List Bytes) (r : Res)
    (hrest : fr.rest = EQUAL_VERIFY ++ rest') (hcap : fr.len0 < fr.cap) (hr : sh.returned = false)
    (hs : sh.stack = a :: b :: st) (hab : a = b) (h1 : 1 ≤ cfg.lim.maxItemSize) (hroom : st.length < cfg.lim.maxItems)
    (h : TSteps (instrTable H C cfg) cfg.lim { fr with rest := rest' } { sh with stack := st } r) :
    TSteps (instrTable H C cfg) cfg.lim fr sh r :=
  run_instr fr _ sh _ 34 rest' r hrest hcap hr (.opEqualVerify_eq (hab ▸ hs) h1 hroom (.done _ _)) h

/-- a run of compiler-emitted pushes leaves the values on the stack, last one on top -/
theorem run_pushes : ∀ (vs : List Bytes) (fr : Frame) (sh : Shared) (rest' : Bytes) (r : Res),
    fr.rest = vs.flatMap pushB ++ rest' → fr.len0 < fr.cap → sh.returned = false →
    (∀ v ∈ vs, 0 < v.length ∧ v.length < 65536 ∧ v.length ≤ cfg.lim.maxItemSize) →
    sh.stack.length + vs.length ≤ cfg.lim.maxItems →
    TSteps (instrTable H C cfg) cfg.lim { fr with rest := rest' } { sh with stack := vs.reverse ++ sh.stack } r →
    TSteps (instrTable H C cfg) cfg.lim fr sh r := by
  intro vs
  induction vs with
  | nil =>
    intro fr sh rest' r hrest _ _ _ _ h
    simp only [List.flatMap_nil, List.nil_append] at hrest
    have hf : ({ fr with rest := rest' } : Frame) = fr := by cases fr; simp_all
    have hsh : ({ sh with stack := ([] : List Bytes).reverse ++ sh.stack } : Shared) = sh := by cases sh; simp
    rw [hf, hsh] at h
    exact h
  | cons v vs ih =>
    intro fr sh rest' r hrest hcap hr hv hroom h
    have hv0 := hv v (by simp)
    simp only [List.flatMap_cons, List.append_assoc] at hrest
    simp only [List.length_cons] at hroom
    refine run_pushB H C cfg fr sh v (vs.flatMap pushB ++ rest') r hv0.1 hv0.2.1 hrest hcap hr hv0.2.2 (by omega) ?_
    refine ih _ _ rest' r rfl hcap hr (fun x hx => hv x (by simp [hx])) (by simp; omega) ?_
    simpa [List.reverse_cons, List.append_assoc] using h

end TV
