import Tapeverif.Lemmas.Counts
/-!
# Termination of the VM kernel, for an arbitrary op table

Every run of `runTape` / `runOp` / `runLoop` ends for some fuel — from every frame and every
well-formed state, for every op table `T` and all limits `L`. The measure is lexicographic:

1. `L.callLimit - c0`, where `c0` bounds the frame's call counter from below: `OP_CALL` and the
   evaluating instructions start their body with a counter one higher, and refuse once the
   counter has reached the limit;
2. the length of the frame's tape when it was created (`len0`): the bodies of IF / ELSE / TRY /
   EXCEPT / LOOP are proper substrings of the tape they are read from (`len0 < cap`, the guard in
   `runTape`);
3. the remaining tape of the frame, the structure of the instruction's op term, and the remaining
   iteration budget of a loop.

`halts_op` and `halts_tape` are the inductions of (3), with what (1) and (2) give as premises; `halts_main`
does the two outer inductions. The bookkeeping facts about the heap of call counters the argument needs
after each nested run (`Lemmas/Counts.lean`) are partial-correctness invariants proved by induction on fuel.
-/
namespace TV

variable {T : UInt8 → Op} {L : Limits}

/-- the run `f`, a function of the fuel, ends -/
def Halts (f : Nat → Res) : Prop := ∃ r, Settles f r

theorem Halts.const {r : Res} (h : r.isFuel = false) : Halts fun _ => r := ⟨r, .const h⟩

theorem Halts.shift {f g : Nat → Res} (h : ∀ n, f (n + 1) = g n) : Halts g → Halts f :=
  fun ⟨r, hr⟩ => ⟨r, hr.shift h⟩

theorem Halts.congr {f g : Nat → Res} {n1 : Nat} (h : ∀ n, n1 ≤ n → f n = g n) : Halts g → Halts f :=
  fun ⟨r, hr⟩ => ⟨r, hr.congr h⟩

/-- sequencing: `X` ends, and from whatever it ends in without error the continuation ends -/
theorem Halts.bind {X : Nat → Res} {g : Nat → Frame → Shared → Res} (hX : Halts X)
    (hg : ∀ f s, Settles X (.ok f s) → Halts (g · f s)) : Halts fun n => (X n).bind (g n) := by
  obtain ⟨rB, hB⟩ := hX
  suffices h : Halts fun n => rB.bind (g n) from let ⟨r, hr⟩ := h; ⟨r, hB.bind hr⟩
  cases rB with
  | err e s => exact .const hB.1
  | ok f s => exact hg f s hB

theorem Settles.tape_counts {fr : Frame} {sh : Shared} {r : Res} {c0 : Nat} (h : Settles (runTape T L · fr sh) r)
    (hw : WF sh) (hc : c0 ≤ getCount fr sh) : APost c0 fr sh r := by
  obtain ⟨_, n, hn⟩ := h
  exact hn n (Nat.le_refl _) ▸ (counts_main T L n).2.2 fr sh c0 hw hc

theorem Settles.op_counts {op : Op} {fr : Frame} {sh : Shared} {r : Res} {c0 : Nat} (h : Settles (runOp T L · op fr sh) r)
    (hw : WF sh) (hc : c0 ≤ getCount fr sh) : APost c0 fr sh r := by
  obtain ⟨_, n, hn⟩ := h
  exact hn n (Nat.le_refl _) ▸ (counts_main T L n).1 op fr sh c0 hw hc

/-- what the measure sees of a frame and state: a lower bound `c0` on the call counter, an upper bound `len` on the
    length of the frame's tape when it was created -/
def Within (c0 len : Nat) (fr : Frame) (sh : Shared) : Prop := WF sh ∧ c0 ≤ getCount fr sh ∧ fr.len0 ≤ len

theorem Within.mono {c0 len : Nat} {fr fr' : Frame} {sh sh' : Shared} (h : Within c0 len fr sh) (hf : FrameLe fr fr')
    (hp : HP c0 sh sh') (hw : WF sh') : Within c0 len fr' sh' :=
  ⟨hw, count_keep h.2.1 hp hf, hf.len0 ▸ h.2.2⟩

theorem Within.prim {c0 len : Nat} {op k : Op} {fr fr' : Frame} {sh sh' : Shared} (h : Within c0 len fr sh)
    (hp : Prim L op fr sh k fr' sh') : Within c0 len fr' sh' :=
  let ⟨hw', hp'⟩ := hp.counts c0 h.1
  h.mono hp.frameLe hp' hw'

/-- after a nested run that started in `sh1`, with counter bound `c1`, and ended in `.ok f s` -/
theorem Within.nested {c0 c1 len : Nat} {fr fr1 frB f : Frame} {sh sh1 s : Shared} (h : Within c0 len fr sh)
    (hf : FrameLe fr fr1) (hp : HP c0 sh sh1) (h01 : c0 ≤ c1) (hA : APost c1 frB sh1 (.ok f s)) : Within c0 len fr1 s :=
  h.mono hf (hp.trans (hA.2.1.mono h01)) hA.1

variable (T L)

/-- One instruction ends, if the tapes it can start do: activations with a higher counter bound (`deeper`), and block
    bodies, which are shorter than `len` or refused by the guard (`inl`). By induction on the op term; a loop by
    induction on its iteration budget. -/
theorem halts_op {c0 len : Nat}
    (deeper : ∀ fr sh, WF sh → c0 + 1 ≤ getCount fr sh → c0 < L.callLimit → Halts (runTape T L · fr sh))
    (inl : ∀ fr sh, WF sh → c0 ≤ getCount fr sh → fr.cap ≤ len → Halts (runTape T L · fr sh)) :
    ∀ op fr sh, Within c0 len fr sh → Halts (runOp T L · op fr sh) := by
  have raise : ∀ {op fr sh e}, Raises L op fr sh e → Halts (runOp T L · op fr sh) :=
    fun h => .shift (runOp_raises T h) (.const rfl)
  have after : ∀ {fr s} k, (∀ fr sh, Within c0 len fr sh → Halts (runOp T L · k fr sh)) → Within c0 len fr s →
      Halts (afterBody T L · k fr s) := by
    intro fr s k ih h
    unfold afterBody
    split
    · exact .const rfl
    · exact ih _ _ h
  intro op
  induction op with
  | done => intro fr sh _; exact .shift (runOp_done T · fr sh) (.const rfl)
  | ret => intro fr sh _; exact .shift (runOp_ret T · fr sh) (.const rfl)
  | abort => intro fr sh _; exact .shift (runOp_abort T · fr sh) (.const rfl)
  | fail e => intro fr sh _; exact raise .fail
  | read _ _ ih | pop _ ih | peekTop _ ih | depth _ ih | cacheGet _ _ ih | rand _ _ ih
  | push _ _ ih | guardCount _ ih | cachePut _ _ _ ih | log _ _ ih | define _ _ _ ih =>
    intro fr sh hI
    cases shape L _ fr sh with
    | raises h => exact raise h
    | prim h => have hI' := hI.prim h; exact .shift (runOp_prim T h) (by cases h; apply ih; exact hI')
  | call h k ih =>
    intro fr sh hI
    cases shape L (.call h k) fr sh with
    | raises h => exact raise h
    | prim h => cases h
    | call hlt =>
      refine .shift (fun n => runOp_call T hlt n h k) ?_
      obtain ⟨fr1, sh1, hsc, hw1, hp1, hf1⟩ := setCount_spec (c0 := c0) fr sh hI.1 hI.2.1
      simp only [hsc]
      split
      · exact .const rfl
      · next id hid =>
        have hc := hI.2.1
        have hw2 := hw1.setFnCount id (getCount fr sh + 1)
        have hcB : c0 + 1 ≤ getCount (callFrame (sh1.fns.getD id default) id (getCount fr sh)) (setFnCount sh1 id (getCount fr sh + 1)) := by
          rw [getCount_callee _ sh1 id _ rfl (hw1.lookup hid)]; omega
        refine (deeper _ _ hw2 hcB (by omega)).bind fun f s hS => ?_
        exact ih _ _ (hI.nested hf1 (hp1.trans (.setFnCount sh1 id _ (by omega))) (Nat.le_succ _) (hS.tape_counts hw2 hcB))
  | sub kind body k ih =>
    intro fr sh hI
    have ⟨hw, hc, hl⟩ := hI
    cases shape L (.sub kind body k) fr sh with
    | raises h => exact raise h
    | prim h => cases h
    | inline =>
      refine .shift (fun n => runOp_inline T n body k fr sh) ((inl (inlineFrame body fr sh) _ (hw.copyDict _) hc hl).bind fun f s hS => ?_)
      exact after k ih (hI.nested (.refl fr) (.of_fns_eq rfl) (Nat.le_refl _) (hS.tape_counts (hw.copyDict _) hc))
    | eval hlt =>
      have hcB : c0 + 1 ≤ getCount (evalFrame body (getCount fr sh) (copyDict sh fr.dict).1) (copyDict sh fr.dict).2 :=
        Nat.succ_le_succ hc
      refine .shift (fun n => runOp_eval T hlt n _ body k) ((deeper _ _ (hw.copyDict _) hcB (by omega)).bind fun f s hS => ?_)
      split
      · exact .const rfl
      · exact ih _ _ (hI.nested (.refl fr) (.of_fns_eq rfl) (Nat.le_succ _) (hS.tape_counts (hw.copyDict _) hcB))
  | tryCatch body exc k ih =>
    intro fr sh hI
    have ⟨hw, hc, hl⟩ := hI
    refine .shift (fun n => runOp_tryCatch T n body exc k fr sh) ?_
    obtain ⟨rB, hB⟩ := inl (inlineFrame body fr sh) (copyDict sh fr.dict).2 (hw.copyDict fr.dict) hc hl
    have hA := hB.tape_counts (c0 := c0) (hw.copyDict fr.dict) hc
    obtain ⟨n0, hn0⟩ := hB.2
    refine .congr (n1 := n0) (fun n hn => by rw [show runTape T L n _ _ = rB from hn0 n hn]) ?_
    cases rB with
    | ok f s => exact after k ih (hI.nested (.refl fr) (.of_fns_eq rfl) (Nat.le_refl _) hA)
    | err e s =>
      cases e with
      | user ek =>
        -- caught: the EXCEPT body runs on the state the failure left
        have hI2 : Within c0 len fr (caught ek s) := hI.mono (.refl fr) hA.2 hA.1
        have hw2 := WF.copyDict (sh := caught ek s) fr.dict hA.1
        refine (inl (inlineFrame exc fr (caught ek s)) _ hw2 hI2.2.1 hl).bind fun f s' hS => ?_
        exact after k ih (hI2.nested (.refl fr) (.of_fns_eq rfl) (Nat.le_refl _) (hS.tape_counts hw2 hI2.2.1))
      | _ => exact .const hB.1
  | loop body k ih =>
    intro fr sh hI
    cases shape L (.loop body k) fr sh with
    | raises h => exact raise h
    | prim h => cases h
    | loop hs =>
      refine .shift (fun n => runOp_loop T hs n body k) ?_
      suffices loopH : ∀ budget lc s, Within c0 len fr s → c0 ≤ lc →
          Halts (runLoop T L · budget lc body k fr s) from loopH _ _ sh hI hI.2.1
      intro budget
      induction budget using Nat.strongRecOn with
      | ind budget ihb =>
      intro lc s hIs hlc
      cases loopShape budget s with
      | empty hst => exact .shift (runLoop_empty T hst · _ lc body k fr) (.const rfl)
      | exit hst ht => exact .shift (runLoop_exit T hst ht · _ lc body k fr) (ih fr s hIs)
      | spent hst ht => exact .shift (runLoop_spent T hst ht · lc body k fr) (.const rfl)
      | @iter b _ _ _ hst ht =>
        refine .shift (fun n => runLoop_iter T hst ht n b lc body k fr) ?_
        refine (inl (loopFrame body lc fr) s hIs.1 hlc hIs.2.2).bind fun f s' hS => ?_
        have hA := hS.tape_counts hIs.1 hlc
        split
        · exact .const rfl
        · exact ihb b (Nat.lt_succ_self b) f.count s' (hIs.mono (.refl fr) hA.2.1 hA.1) (Nat.le_trans hlc hA.2.2.count_le)

/-- a tape ends if each of its instructions does: by induction on what is left of it -/
theorem halts_tape {c0 len : Nat} (opH : ∀ op fr sh, Within c0 len fr sh → Halts (runOp T L · op fr sh)) :
    ∀ m fr sh, fr.rest.length ≤ m → Within c0 len fr sh → Halts (runTape T L · fr sh) := by
  intro m
  induction m using Nat.strongRecOn with
  | ind m ihm =>
  intro fr sh hm hI
  cases tapeShape fr sh with
  | nil h => exact .shift (runTape_nil T h · sh) (.const rfl)
  | guard h hg => exact .shift (runTape_guard T h hg · sh) (.const rfl)
  | ghost h hg hret => exact .shift (runTape_ghost T h hg hret) (.const rfl)
  | @fetch c rest h hg hret =>
    refine .shift (runTape_cons T h hg hret) ((opH (T c) { fr with rest := rest } sh hI).bind fun f s hS => ?_)
    have hA := hS.op_counts hI.1 hI.2.1
    rw [h] at hm
    exact ihm rest.length hm f s hA.2.2.length_le (hI.mono ((FrameLe.rest (by simp [h])).trans hA.2.2) hA.2.1 hA.1)

theorem halts_main (d : Nat) : ∀ len fr sh c0, WF sh → c0 ≤ getCount fr sh → L.callLimit - c0 ≤ d → fr.len0 ≤ len →
    Halts (runTape T L · fr sh) := by
  induction d using Nat.strongRecOn with
  | ind d ihd =>
  intro len
  induction len using Nat.strongRecOn with
  | ind len ihl =>
  intro fr sh c0 hw hc hd hl
  refine halts_tape T L (halts_op T L ?deeper ?inl) _ fr sh (Nat.le_refl _) ⟨hw, hc, hl⟩
  case deeper =>
    exact fun fr sh hw hc hlt =>
      ihd (L.callLimit - (c0 + 1)) (by omega) fr.len0 fr sh (c0 + 1) hw hc (Nat.le_refl _) (Nat.le_refl _)
  case inl =>
    intro fr sh hw hc hcap
    by_cases h : fr.len0 < fr.cap
    · exact ihl fr.len0 (by omega) fr sh c0 hw hc hd (Nat.le_refl _)
    · cases hrest : fr.rest with
      | nil => exact .shift (runTape_nil T hrest · sh) (.const rfl)
      | cons c rest => exact .shift (runTape_guard T hrest h · sh) (.const rfl)

theorem Halts.outcome {f : Nat → Res} : Halts f → ∃ n r, r.isFuel = false ∧ ∀ m, n ≤ m → f m = r :=
  fun ⟨r, hf, n, hn⟩ => ⟨n, r, hf, hn⟩

theorem runTape_halts (fr : Frame) (sh : Shared) (hw : WF sh) : Halts (runTape T L · fr sh) :=
  halts_main T L (L.callLimit - 0) fr.len0 fr sh 0 hw (Nat.zero_le _) (Nat.le_refl _) (Nat.le_refl _)

/-- **Termination.** For every op table, all limits, every frame and every well-formed state:
    the run of the tape ends — from some fuel on the outcome is the same and is not the out-of-fuel
    marker. -/
theorem runTape_terminates (fr : Frame) (sh : Shared) (hw : WF sh) :
    ∃ n r, r.isFuel = false ∧ ∀ m, n ≤ m → runTape T L m fr sh = r :=
  (runTape_halts T L fr sh hw).outcome

end TV
