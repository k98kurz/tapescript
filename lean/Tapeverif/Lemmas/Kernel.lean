import Tapeverif.Model.VM
/-! # The case structure of the interpreter

`runOp` has some fifty branches, and every proof about it treats them in the same few groups.
A primitive that starts no nested run either goes on in a changed frame and state (`Prim`) or
raises with the state as it was (`Raises`); `done`, `ret` and `abort` end the run of the op; `call`,
`sub`, `tryCatch` and `loop` run a tape and go on from its outcome. `Shape` says that the groups
are exhaustive and the `runOp_*` equations say what `runOp` does in each; `LoopShape` and `TapeShape`
do the same for `runLoop` and `runTape`. An induction on fuel takes its cases from `shape`,
`loopShape` and `tapeShape` and rewrites with the equations; it never unfolds an interpreter. -/
namespace TV

variable (T : UInt8 → Op) (L : Limits)

/-- `op` starts no nested run and succeeds in `(fr, sh)`: the run goes on as `k` in `(fr', sh')`. -/
inductive Prim : Op → Frame → Shared → Op → Frame → Shared → Prop
  | read {n k fr sh} : n ≤ fr.rest.length →
      Prim (.read n k) fr sh (k (fr.rest.take n)) { fr with rest := fr.rest.drop n } sh
  | pop {k fr sh x r} : sh.stack = x :: r → Prim (.pop k) fr sh (k x) fr { sh with stack := r }
  | peekTop {k fr sh x r} : sh.stack = x :: r → Prim (.peekTop k) fr sh (k x) fr sh
  | depth {k fr sh} : Prim (.depth k) fr sh (k sh.stack.length) fr sh
  | push {b k fr sh} : b.length ≤ L.maxItemSize → sh.stack.length < L.maxItems →
      Prim (.push b k) fr sh k fr { sh with stack := b :: sh.stack }
  | cacheGet {key k fr sh} : Prim (.cacheGet key k) fr sh (k (lookupC key sh.cache)) fr
      (if key = .byt eKey ∧ sh.eTaint then { sh with tainted := true } else sh)
  | cachePut {key v k fr sh} : Prim (.cachePut key v k) fr sh k fr
      { sh with cache := (.byt key, v) :: sh.cache, eTaint := if key = eKey then false else sh.eTaint }
  | rand {n k fr sh} :
      Prim (.rand n k) fr sh (k (randBytes sh.randCtr n)) fr { sh with randCtr := sh.randCtr + 1 }
  | log {t k fr sh} : Prim (.log t k) fr sh k fr { sh with plog := t :: sh.plog }
  | guardCount {k fr sh} : getCount fr sh < L.callLimit → Prim (.guardCount k) fr sh k fr sh
  | define {h body k fr sh} : Prim (.define h body k) fr sh k fr
      { sh with fns := sh.fns ++ [{ body := body, dict := fr.dict, count := 0 }],
                dicts := sh.dicts.set fr.dict ((h, sh.fns.length) :: sh.dicts.getD fr.dict []) }

/-- `op` raises `e` in `(fr, sh)` before it has changed anything. -/
inductive Raises : Op → Frame → Shared → ErrKind → Prop
  | fail {e fr sh} : Raises (.fail e) fr sh e
  | read {n k fr sh} : ¬ n ≤ fr.rest.length → Raises (.read n k) fr sh .see
  | pop {k fr sh} : sh.stack = [] → Raises (.pop k) fr sh .index
  | peekTop {k fr sh} : sh.stack = [] → Raises (.peekTop k) fr sh .index
  | pushBig {b k fr sh} : ¬ b.length ≤ L.maxItemSize → Raises (.push b k) fr sh .see
  | pushFull {b k fr sh} : ¬ sh.stack.length < L.maxItems → Raises (.push b k) fr sh .see
  | guardCount {k fr sh} : ¬ getCount fr sh < L.callLimit → Raises (.guardCount k) fr sh .see
  | call {h k fr sh} : ¬ getCount fr sh < L.callLimit → Raises (.call h k) fr sh .see
  | eval {p body k fr sh} : ¬ getCount fr sh < L.callLimit → Raises (.sub (.eval p) body k) fr sh .see
  | loop {body k fr sh} : sh.stack = [] → Raises (.loop body k) fr sh .index

inductive Shape : Op → Frame → Shared → Prop
  | done {fr sh} : Shape .done fr sh
  | ret {fr sh} : Shape .ret fr sh
  | abort {fr sh} : Shape .abort fr sh
  | raises {op fr sh e} : Raises L op fr sh e → Shape op fr sh
  | prim {op fr sh k fr' sh'} : Prim L op fr sh k fr' sh' → Shape op fr sh
  | call {h k fr sh} : getCount fr sh < L.callLimit → Shape (.call h k) fr sh
  | inline {body k fr sh} : Shape (.sub .inline body k) fr sh
  | eval {p body k fr sh} : getCount fr sh < L.callLimit → Shape (.sub (.eval p) body k) fr sh
  | tryCatch {body exc k fr sh} : Shape (.tryCatch body exc k) fr sh
  | loop {body k fr sh} : sh.stack ≠ [] → Shape (.loop body k) fr sh

theorem shape (op : Op) (fr : Frame) (sh : Shared) : Shape L op fr sh :=
  match op with
  | .done => .done
  | .ret => .ret
  | .abort => .abort
  | .fail _ => .raises .fail
  | .read n _ => if h : n ≤ fr.rest.length then .prim (.read h) else .raises (.read h)
  | .pop _ => match h : sh.stack with
    | [] => .raises (.pop h)
    | _ :: _ => .prim (.pop h)
  | .peekTop _ => match h : sh.stack with
    | [] => .raises (.peekTop h)
    | _ :: _ => .prim (.peekTop h)
  | .depth _ => .prim .depth
  | .push b _ =>
    if h1 : b.length ≤ L.maxItemSize then
      if h2 : sh.stack.length < L.maxItems then .prim (.push h1 h2) else .raises (.pushFull h2)
    else .raises (.pushBig h1)
  | .cacheGet _ _ => .prim .cacheGet
  | .cachePut _ _ _ => .prim .cachePut
  | .rand _ _ => .prim .rand
  | .log _ _ => .prim .log
  | .guardCount _ => if h : getCount fr sh < L.callLimit then .prim (.guardCount h) else .raises (.guardCount h)
  | .define _ _ _ => .prim .define
  | .call _ _ => if h : getCount fr sh < L.callLimit then .call h else .raises (.call h)
  | .sub .inline _ _ => .inline
  | .sub (.eval _) _ _ => if h : getCount fr sh < L.callLimit then .eval h else .raises (.eval h)
  | .tryCatch _ _ _ => .tryCatch
  | .loop _ _ => if h : sh.stack = [] then .raises (.loop h) else .loop h

inductive LoopShape : Nat → Shared → Prop
  | empty {budget sh} : sh.stack = [] → LoopShape budget sh
  | exit {budget sh top r} : sh.stack = top :: r → truthy top = false → LoopShape budget sh
  | spent {sh top r} : sh.stack = top :: r → truthy top = true → LoopShape 0 sh
  | iter {b sh top r} : sh.stack = top :: r → truthy top = true → LoopShape (b + 1) sh

theorem loopShape (budget : Nat) (sh : Shared) : LoopShape budget sh :=
  match h : sh.stack with
  | [] => .empty h
  | top :: _ =>
    match ht : truthy top, budget with
    | false, _ => .exit h ht
    | true, 0 => .spent h ht
    | true, _ + 1 => .iter h ht

inductive TapeShape : Frame → Shared → Prop
  | nil {fr sh} : fr.rest = [] → TapeShape fr sh
  | guard {fr sh c rest} : fr.rest = c :: rest → ¬ fr.len0 < fr.cap → TapeShape fr sh
  | ghost {fr sh c rest} : fr.rest = c :: rest → fr.len0 < fr.cap → sh.returned = true → TapeShape fr sh
  | fetch {fr sh c rest} : fr.rest = c :: rest → fr.len0 < fr.cap → sh.returned = false → TapeShape fr sh

theorem tapeShape (fr : Frame) (sh : Shared) : TapeShape fr sh :=
  match h : fr.rest with
  | [] => .nil h
  | _ :: _ =>
    if hc : fr.len0 < fr.cap then
      match hr : sh.returned with
      | true => .ghost h hc hr
      | false => .fetch h hc hr
    else .guard h hc

def Res.bind (r : Res) (g : Frame → Shared → Res) : Res :=
  match r with
  | .err e s => .err e s
  | .ok f s => g f s

@[simp] theorem Res.bind_ok (f : Frame) (s : Shared) (g : Frame → Shared → Res) : (Res.ok f s).bind g = g f s := rfl
@[simp] theorem Res.bind_err (e : Err) (s : Shared) (g : Frame → Shared → Res) : (Res.err e s).bind g = .err e s := rfl

/-- the frame an IF / ELSE / TRY / EXCEPT body runs in -/
def inlineFrame (body : Bytes) (fr : Frame) (sh : Shared) : Frame :=
  { rest := body, count := getCount fr sh, fn := none, dict := (copyDict sh fr.dict).1, len0 := body.length, cap := fr.len0 }

/-- the frame an evaluated script runs in -/
def evalFrame (body : Bytes) (c : Nat) (d : Nat) : Frame :=
  { rest := body, count := c + 1, fn := none, dict := d, len0 := body.length, cap := body.length + 1 }

/-- the frame a called function body runs in: an activation of function object `id` -/
def callFrame (f : Fn) (id c : Nat) : Frame :=
  { rest := f.body, count := c + 1, fn := some id, dict := f.dict, len0 := f.body.length, cap := f.body.length + 1 }

/-- the frame a LOOP body runs in: it shares the dictionary of the enclosing frame -/
def loopFrame (body : Bytes) (lc : Nat) (fr : Frame) : Frame :=
  { rest := body, count := lc, fn := none, dict := fr.dict, len0 := body.length, cap := fr.len0 }

/-- the state an EXCEPT body starts in -/
def caught (ek : ErrKind) (sh : Shared) : Shared :=
  { sh with cache := (.byt eKey, errValue ek) :: sh.cache, eTaint := true }

/-- after a block body that ended without error: a RETURN in it ends the enclosing frame too -/
def afterBody (n : Nat) (k : Op) (fr : Frame) (sh' : Shared) : Res :=
  if sh'.returned then .ok (endFrame fr) sh' else runOp T L n k fr sh'

variable {L}

theorem runOp_zero (op : Op) (fr : Frame) (sh : Shared) : runOp T L 0 op fr sh = .err .fuel sh := rfl

theorem runLoop_zero (budget lc : Nat) (body : Bytes) (k : Op) (fr : Frame) (sh : Shared) :
    runLoop T L 0 budget lc body k fr sh = .err .fuel sh := rfl

theorem runTape_zero (fr : Frame) (sh : Shared) : runTape T L 0 fr sh = .err .fuel sh := rfl

theorem runOp_prim {op k : Op} {fr fr' : Frame} {sh sh' : Shared} (h : Prim L op fr sh k fr' sh') (n : Nat) :
    runOp T L (n + 1) op fr sh = runOp T L n k fr' sh' := by
  cases h <;> simp [runOp, *]

theorem runOp_raises {op : Op} {fr : Frame} {sh : Shared} {e : ErrKind} (h : Raises L op fr sh e) (n : Nat) :
    runOp T L (n + 1) op fr sh = .err (.user e) sh := by
  cases h <;> simp [runOp, *]

theorem runOp_done (n : Nat) (fr : Frame) (sh : Shared) : runOp T L (n + 1) .done fr sh = .ok fr sh := rfl

theorem runOp_ret (n : Nat) (fr : Frame) (sh : Shared) :
    runOp T L (n + 1) .ret fr sh = .ok (endFrame fr) { sh with returned := true } := rfl

theorem runOp_abort (n : Nat) (fr : Frame) (sh : Shared) : runOp T L (n + 1) .abort fr sh = .err .abort sh := rfl

theorem runOp_inline (n : Nat) (body : Bytes) (k : Op) (fr : Frame) (sh : Shared) :
    runOp T L (n + 1) (.sub .inline body k) fr sh =
      (runTape T L n (inlineFrame body fr sh) (copyDict sh fr.dict).2).bind fun _ sh' => afterBody T L n k fr sh' := by
  simp only [runOp]; rfl

theorem runOp_eval {fr : Frame} {sh : Shared} (hc : getCount fr sh < L.callLimit) (n : Nat) (p : Bool)
    (body : Bytes) (k : Op) :
    runOp T L (n + 1) (.sub (.eval p) body k) fr sh =
      (runTape T L n (evalFrame body (getCount fr sh) (copyDict sh fr.dict).1) (copyDict sh fr.dict).2).bind
        fun _ sh' => if sh'.returned && p then .ok (endFrame fr) sh' else runOp T L n k fr { sh' with returned := false } := by
  simp only [runOp, hc, ↓reduceIte]; rfl

theorem runOp_tryCatch (n : Nat) (body exc : Bytes) (k : Op) (fr : Frame) (sh : Shared) :
    runOp T L (n + 1) (.tryCatch body exc k) fr sh =
      match runTape T L n (inlineFrame body fr sh) (copyDict sh fr.dict).2 with
      | .ok _ sh' => afterBody T L n k fr sh'
      | .err (.user ek) sh' =>
        (runTape T L n (inlineFrame exc fr (caught ek sh')) (copyDict (caught ek sh') fr.dict).2).bind
          fun _ s => afterBody T L n k fr s
      | .err e sh' => .err e sh' := by
  simp only [runOp, inlineFrame]
  generalize runTape T L n _ (copyDict sh fr.dict).2 = X
  cases X with
  | ok f s => rfl
  | err e s => cases e <;> rfl

theorem runOp_call {fr : Frame} {sh : Shared} (hc : getCount fr sh < L.callLimit) (n : Nat) (h : UInt8) (k : Op) :
    runOp T L (n + 1) (.call h k) fr sh =
      let c := getCount fr sh
      let p := setCount fr sh (c + 1)
      match lookupDef h (p.2.dicts.getD fr.dict []) with
      | none => .err (.user .key) p.2
      | some id =>
        (runTape T L n (callFrame (p.2.fns.getD id default) id c) (setFnCount p.2 id (c + 1))).bind fun _ sh' =>
          runOp T L n k p.1 { sh' with returned := false } := by
  simp only [runOp, hc, ↓reduceIte]
  cases lookupDef h ((setCount fr sh (getCount fr sh + 1)).2.dicts.getD fr.dict []) <;> rfl

theorem runOp_loop {fr : Frame} {sh : Shared} (hs : sh.stack ≠ []) (n : Nat) (body : Bytes) (k : Op) :
    runOp T L (n + 1) (.loop body k) fr sh = runLoop T L n L.callLimit (getCount fr sh) body k fr sh := by
  simp only [runOp]
  split
  · next h => exact absurd h hs
  · rfl

theorem runLoop_empty {sh : Shared} (hs : sh.stack = []) (n budget lc : Nat) (body : Bytes) (k : Op) (fr : Frame) :
    runLoop T L (n + 1) budget lc body k fr sh = .err (.user .index) sh := by
  simp [runLoop, hs]

theorem runLoop_spent {sh : Shared} {top : Bytes} {r : List Bytes} (hs : sh.stack = top :: r) (ht : truthy top = true)
    (n lc : Nat) (body : Bytes) (k : Op) (fr : Frame) :
    runLoop T L (n + 1) 0 lc body k fr sh = .err (.user .see) sh := by
  simp [runLoop, hs, ht]

theorem runLoop_exit {sh : Shared} {top : Bytes} {r : List Bytes} (hs : sh.stack = top :: r) (ht : truthy top = false)
    (n budget lc : Nat) (body : Bytes) (k : Op) (fr : Frame) :
    runLoop T L (n + 1) budget lc body k fr sh = runOp T L n k fr sh := by
  simp [runLoop, hs, ht]

theorem runLoop_iter {sh : Shared} {top : Bytes} {r : List Bytes} (hs : sh.stack = top :: r) (ht : truthy top = true)
    (n b lc : Nat) (body : Bytes) (k : Op) (fr : Frame) :
    runLoop T L (n + 1) (b + 1) lc body k fr sh =
      (runTape T L n (loopFrame body lc fr) sh).bind fun f s =>
        if s.returned then .ok (endFrame fr) s else runLoop T L n b f.count body k fr s := by
  simp only [runLoop, hs, ht, ↓reduceIte]; rfl

theorem runTape_nil {fr : Frame} (h : fr.rest = []) (n : Nat) (sh : Shared) : runTape T L (n + 1) fr sh = .ok fr sh := by
  simp only [runTape, h]

/-- a tape that is not shorter than its `cap` is refused -/
theorem runTape_guard {fr : Frame} {c : UInt8} {rest : Bytes} (hrest : fr.rest = c :: rest) (hcap : ¬ fr.len0 < fr.cap)
    (n : Nat) (sh : Shared) : runTape T L (n + 1) fr sh = .err .guard sh := by
  simp only [runTape, hrest, hcap, not_false_eq_true, ↓reduceIte]

/-- a fetch with RETURN pending trips the ghost assertion -/
theorem runTape_ghost {fr : Frame} {sh : Shared} {c : UInt8} {rest : Bytes} (hrest : fr.rest = c :: rest)
    (hcap : fr.len0 < fr.cap) (hr : sh.returned = true) (n : Nat) : runTape T L (n + 1) fr sh = .err .ghost sh := by
  simp only [runTape, hrest, hr, ↓reduceIte, Decidable.not_not.mpr hcap]

theorem runTape_cons {fr : Frame} {sh : Shared} {c : UInt8} {rest : Bytes} (hrest : fr.rest = c :: rest)
    (hcap : fr.len0 < fr.cap) (hr : sh.returned = false) (n : Nat) :
    runTape T L (n + 1) fr sh = (runOp T L n (T c) { fr with rest := rest } sh).bind (runTape T L n) := by
  simp only [runTape, hrest, hr, Bool.false_eq_true, ↓reduceIte, Decidable.not_not.mpr hcap]; rfl

/-! ### the frame of a run only moves forward -/

def FrameLe (fr fr' : Frame) : Prop :=
  fr'.rest.length ≤ fr.rest.length ∧ fr'.len0 = fr.len0 ∧ fr'.cap = fr.cap ∧ fr'.fn = fr.fn ∧ fr'.dict = fr.dict ∧
    fr.count ≤ fr'.count

theorem FrameLe.refl (fr : Frame) : FrameLe fr fr := ⟨Nat.le_refl _, rfl, rfl, rfl, rfl, Nat.le_refl _⟩

theorem FrameLe.trans {a b c : Frame} (h1 : FrameLe a b) (h2 : FrameLe b c) : FrameLe a c :=
  ⟨Nat.le_trans h2.1 h1.1, h2.2.1.trans h1.2.1, h2.2.2.1.trans h1.2.2.1, h2.2.2.2.1.trans h1.2.2.2.1,
   h2.2.2.2.2.1.trans h1.2.2.2.2.1, Nat.le_trans h1.2.2.2.2.2 h2.2.2.2.2.2⟩

theorem FrameLe.length_le {a b : Frame} (h : FrameLe a b) : b.rest.length ≤ a.rest.length := h.1
theorem FrameLe.len0 {a b : Frame} (h : FrameLe a b) : b.len0 = a.len0 := h.2.1
theorem FrameLe.cap {a b : Frame} (h : FrameLe a b) : b.cap = a.cap := h.2.2.1
theorem FrameLe.fn {a b : Frame} (h : FrameLe a b) : b.fn = a.fn := h.2.2.2.1
theorem FrameLe.count_le {a b : Frame} (h : FrameLe a b) : a.count ≤ b.count := h.2.2.2.2.2

theorem FrameLe.endFrame (fr : Frame) : FrameLe fr (endFrame fr) :=
  ⟨Nat.zero_le _, rfl, rfl, rfl, rfl, Nat.le_refl _⟩

theorem FrameLe.rest {fr : Frame} {r : Bytes} (h : r.length ≤ fr.rest.length) : FrameLe fr { fr with rest := r } :=
  ⟨h, rfl, rfl, rfl, rfl, Nat.le_refl _⟩

theorem Prim.frameLe {op k : Op} {fr fr' : Frame} {sh sh' : Shared} (h : Prim L op fr sh k fr' sh') :
    FrameLe fr fr' := by
  cases h with
  | read => exact .rest (by simp)
  | _ => exact .refl _

/-- the caller's frame after a `call` has counted itself -/
theorem setCount_frameLe (fr : Frame) (sh : Shared) : FrameLe fr (setCount fr sh (getCount fr sh + 1)).1 := by
  unfold setCount
  cases hfn : fr.fn with
  | none => exact ⟨Nat.le_refl _, rfl, rfl, hfn.symm, rfl, by simp [getCount, hfn]⟩
  | some id => exact .refl fr

end TV
