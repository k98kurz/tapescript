import Mathlib.Data.List.Induction
import Tapeverif.Model.Asm
import Tapeverif.Lemmas.Codec
/-! Lemmas about the instruction codec: each parser is characterised by an `iff` that says it
    inverts the corresponding encoder on exactly the inputs the encoder is meant for. -/
namespace TV

theorem natTo_natOf (l : Bytes) : natToBytesBE l.length (natOfBytesBE l) = l := by
  induction l using List.reverseRecOn with
  | nil => rfl
  | append_singleton r x ih =>
    have hx : x.toNat < 256 := x.toNat_lt
    rw [List.length_append, List.length_singleton, natToBytesBE, natOfBytesBE_append_single,
      show (natOfBytesBE r * 256 + x.toNat) / 256 = natOfBytesBE r by omega,
      show (natOfBytesBE r * 256 + x.toNat) % 256 = x.toNat by omega, ih, UInt8.ofNat_toNat]

namespace Asm

theorem takeExact_eq_some {n : Nat} {b x r : Bytes} :
    takeExact n b = some (x, r) ↔ b = x ++ r ∧ x.length = n := by
  unfold takeExact
  constructor
  · intro h
    split at h
    · next hle =>
      obtain ⟨rfl, rfl⟩ := Prod.mk.inj (Option.some.inj h)
      exact ⟨(List.take_append_drop n b).symm, List.length_take_of_le hle⟩
    · cases h
  · rintro ⟨rfl, rfl⟩
    simp

theorem readSized_eq_some {w : Nat} {b v r : Bytes} :
    readSized w b = some (v, r) ↔ b = sized w v ++ r ∧ v.length < 256 ^ w := by
  simp only [readSized, sized, Option.bind_eq_bind, Option.bind_eq_some_iff, Prod.exists,
    takeExact_eq_some]
  constructor
  · rintro ⟨l, _, ⟨rfl, rfl⟩, rfl, hv⟩
    rw [hv, natTo_natOf, List.append_assoc]
    exact ⟨rfl, natOfBytesBE_lt l⟩
  · rintro ⟨rfl, h⟩
    exact ⟨_, _, ⟨List.append_assoc .., natToBytesBE_length ..⟩, rfl,
      (natOf_natTo_of_lt h).symm⟩

/-- decoding the operands inverts encoding them, on exactly the well-formed field lists: by cases
    on the layout and on the number of fields, both sides unfold to the same conjunction -/
theorem decodeOperands_eq_some {c : UInt8} {b : Bytes} {fs : List Bytes} {r : Bytes} :
    decodeOperands c b = some (fs, r) ↔
      b = encodeOperands c fs ++ r ∧ wellFormed ⟨c, fs⟩ = true := by
  unfold decodeOperands encodeOperands wellFormed
  cases kindOf c.toNat <;>
    rcases fs with _ | ⟨x, _ | ⟨y, _ | ⟨z, _ | ⟨w, fs⟩⟩⟩⟩ <;>
    simp [Option.bind_eq_some_iff, takeExact_eq_some, readSized_eq_some, and_assoc]

theorem decodeNext_eq_some {b : Bytes} {i : Instr} {r : Bytes} :
    decodeNext b = some (i, r) ↔ b = encodeInstr i ++ r ∧ wellFormed i = true := by
  obtain ⟨c, fs⟩ := i
  cases b with
  | nil => simp [decodeNext, encodeInstr]
  | cons c' t =>
    simp only [decodeNext, encodeInstr, Option.map_eq_some_iff, Prod.exists, Prod.mk.injEq,
      Instr.mk.injEq, List.cons_append, List.cons.injEq, decodeOperands_eq_some]
    constructor
    · rintro ⟨_, _, h, ⟨rfl, rfl⟩, rfl⟩; exact ⟨⟨rfl, h.1⟩, h.2⟩
    · rintro ⟨⟨rfl, h1⟩, h2⟩; exact ⟨_, _, ⟨h1, h2⟩, ⟨rfl, rfl⟩, rfl⟩

theorem decodeSeq_eq_some : ∀ {fuel : Nat} {b : Bytes} {is : List Instr},
    decodeSeq fuel b = some is ↔
      is.length ≤ fuel ∧ encodeSeq is = b ∧ ∀ i ∈ is, wellFormed i = true
  | _, [], is => by cases is <;> simp [decodeSeq, encodeSeq, encodeInstr]
  | 0, _ :: _, is => by cases is <;> simp [decodeSeq, encodeSeq]
  | fuel + 1, c :: t, [] => by simp [decodeSeq, encodeSeq, Option.bind_eq_some_iff]
  | fuel + 1, c :: t, i :: rest => by
    simp only [decodeSeq, Option.bind_eq_bind, Option.bind_eq_some_iff, Option.pure_def,
      Option.some.injEq, List.cons.injEq, Prod.exists, decodeNext_eq_some,
      decodeSeq_eq_some (fuel := fuel), encodeSeq, List.flatMap_cons, List.length_cons,
      Nat.add_le_add_iff_right, List.forall_mem_cons]
    constructor
    · rintro ⟨i', r, ⟨hb, hi⟩, rest', ⟨hl, rfl, hw⟩, rfl, rfl⟩
      exact ⟨hl, hb.symm, hi, hw⟩
    · rintro ⟨hl, hb, hi, hw⟩
      exact ⟨i, _, ⟨hb.symm, hi⟩, rest, ⟨hl, rfl, hw⟩, rfl, rfl⟩

/-- every instruction takes at least its opcode byte -/
theorem length_le_encodeSeq_length (is : List Instr) : is.length ≤ (encodeSeq is).length := by
  induction is with
  | nil => exact Nat.le_refl 0
  | cons i is ih =>
    simp only [encodeSeq, encodeInstr, List.flatMap_cons, List.length_append, List.length_cons] at ih ⊢
    omega

/-! ### evaluating the table obligations

The kernel compares two strings byte by byte through several layers of structure, which is slow
for the thousands of *unequal* pairs a `find?` or `any` over a name-keyed table goes through.
Comparing a numeric key first lets `&&` skip that walk whenever the keys already differ; the
key need not be injective, since equal keys are followed by the real comparison. -/

def strKey (s : String) : Nat := s.toByteArray.data.toList.foldl (fun a b => 256 * a + b.toNat) 0

theorem decide_eq_via {α κ : Type} [DecidableEq α] [DecidableEq κ] (f : α → κ) (a b : α) :
    decide (a = b) = (f a == f b && a == b) := by
  by_cases h : a = b <;> simp [h]

end TV.Asm
