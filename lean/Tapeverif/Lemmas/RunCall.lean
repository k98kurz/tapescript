import Tapeverif.Lemmas.RunRel
import Tapeverif.Lemmas.Counts
/-!
Rules for `OP_DEF` and `OP_CALL`, and `RecFn`, the fact about the two heaps (function
objects, definition dictionaries) under which a function calls itself: together they compose the
levels of the recursive delegation-chain lock.
-/
namespace TV
open Instr Tools

/-- how the caller sees the outcome of the called body -/
def wrapCall (fr : Frame) : Res → Res
  | .err e s => .err e s
  | .ok _ s => .ok fr { s with returned := false }

theorem summary_wrapCall (fr : Frame) (r : Res) : Res.summary (wrapCall fr r) = Res.summary r := by
  cases r <;> rfl

/-- `.call h .done` from a frame that is not itself a function activation (`fn = none`: the
    top-level tape, or an IF / ELSE / TRY body): the call counter of the frame goes up by one, the
    function object's counter is set to the same value, and the outcome is the body's outcome as
    the caller sees it. -/
theorem Steps.call_done {T : UInt8 → Op} {L : Limits} {h : UInt8} {fr : Frame} {sh : Shared} {id : Nat} {rB : Res}
    (hfn : fr.fn = none) (hc : fr.count < L.callLimit)
    (hl : lookupDef h (sh.dicts.getD fr.dict []) = some id)
    (hb : TSteps T L (callFrame (sh.fns.getD id default) id fr.count) (setFnCount sh id (fr.count + 1)) rB) :
    Steps T L (.call h .done) fr sh (wrapCall { fr with count := fr.count + 1 } rB) := by
  have hg : getCount fr sh = fr.count := by rw [getCount, hfn]
  refine .nested (g := fun n _ s => runOp T L n .done { fr with count := fr.count + 1 } { s with returned := false })
    (fun n => ?_) hb ?_
  · rw [runOp_call T (hg ▸ hc)]; simp only [hg, setCount, hfn, hl]
  · cases rB with
    | err e s => exact .const hb.settles.1
    | ok f s => exact (Steps.done _ _).settles

variable (H : Hashes) (C : Curve) (cfg : Cfg)

theorem run_call_last (fr : Frame) (sh : Shared) (h : Nat) (id : Nat) (rB : Res)
    (hrest : fr.rest = CALL h) (hcap : fr.len0 < fr.cap) (hr : sh.returned = false)
    (hfn : fr.fn = none) (hc : fr.count < cfg.lim.callLimit)
    (hl : lookupDef (UInt8.ofNat h) (sh.dicts.getD fr.dict []) = some id)
    (hb : TSteps (instrTable H C cfg) cfg.lim (callFrame (sh.fns.getD id default) id fr.count)
            (setFnCount sh id (fr.count + 1)) rB) :
    TSteps (instrTable H C cfg) cfg.lim fr sh (wrapCall { fr with rest := [], count := fr.count + 1 } rB) :=
  .last (UInt8.ofNat 42) [UInt8.ofNat h] hrest hcap hr
    (show Steps _ _ (opCall .done) _ _ _ from .guardCount (by rwa [getCount, hfn])
      (.read (Nat.le_refl 1) (Steps.call_done (fr := { fr with rest := [] }) hfn hc hl hb)))
    (by intro f s he; cases rB <;> cases he; rfl)

/-- the state after `OP_DEF h` of `body` in a frame whose dictionary is `d` -/
def defState (sh : Shared) (d : Nat) (h : UInt8) (body : Bytes) : Shared :=
  { sh with fns := sh.fns ++ [{ body := body, dict := d, count := 0 }],
            dicts := sh.dicts.set d ((h, sh.fns.length) :: sh.dicts.getD d []) }

theorem Steps.opDef {T : UInt8 → Op} {L : Limits} {k : Op} {fr : Frame} {sh : Shared} {r : Res} {h : UInt8} {body rest : Bytes}
    (hbl : body.length < 65536) (hrest : fr.rest = h :: (u2 body.length ++ (body ++ rest)))
    (hk : Steps T L k { fr with rest := rest } (defState sh fr.dict h body) r) : Steps T L (opDef k) fr sh r :=
  .readN (v := [h]) rfl hrest (.readU2 hbl rfl (.readN rfl rfl (.prim .define hk)))

theorem defOp_bytes (h : Nat) (body rest : Bytes) :
    defOp h body ++ rest = 41 :: UInt8.ofNat h :: (u2 body.length ++ (body ++ rest)) := by
  simp [defOp, opc, List.append_assoc]

variable {H C cfg}

theorem Run.def {fr : Frame} {sh : Shared} {k h : Nat} {body rest : Bytes} {st : List Bytes} {wr : Written} {P : Res → Prop}
    (hbl : body.length < 65536) (hk : Run H C cfg fr (defState sh fr.dict (UInt8.ofNat h) body) k rest st wr P) :
    Run H C cfg fr sh k (defOp h body ++ rest) st wr P :=
  defOp_bytes h body rest ▸ fun hcap hr hroom =>
    let ⟨r, hT, hP⟩ := hk hcap hr hroom
    ⟨r, run_instr (fr.cont _) _ (sh.upd st wr) _ 41 _ r rfl hcap hr (.opDef hbl rfl (.done _ _)) hT, hP⟩

/-- Function object `F` calls itself under the name `n`: its body is `body`, and `d`, the dictionary it was
    defined in (where the calls its body makes are resolved), binds `n` to `F`. `def n { … call n … }` sets this
    up, and no state change of a run undoes it. -/
structure RecFn (sh : Shared) (n : UInt8) (F : Nat) (body : Bytes) (d : Nat) : Prop where
  lt : F < sh.fns.length
  body : (sh.fns.getD F default).body = body
  dict : (sh.fns.getD F default).dict = d
  dlt : d < sh.dicts.length
  self : lookupDef n (sh.dicts.getD d []) = some F

section recfn
variable {sh sh' : Shared} {n : UInt8} {F d : Nat} {body : Bytes}

theorem getD_append_lt {α : Type} (l : List α) (x a : α) {i : Nat} (h : i < l.length) : (l ++ [x]).getD i a = l.getD i a := by
  simp [List.getD_eq_getElem?_getD, List.getElem?_append_left h]

theorem getD_append_length {α : Type} (l : List α) (x a : α) : (l ++ [x]).getD l.length a = x := by
  simp [List.getD_eq_getElem?_getD]

/-- only the two heaps matter -/
theorem RecFn.of_eq (h : RecFn sh n F body d) (hf : sh'.fns = sh.fns) (hd : sh'.dicts = sh.dicts) : RecFn sh' n F body d :=
  ⟨hf ▸ h.lt, hf ▸ h.body, hf ▸ h.dict, hd ▸ h.dlt, hd ▸ h.self⟩

theorem RecFn.setFnCount (id c : Nat) (h : RecFn sh n F body d) : RecFn (setFnCount sh id c) n F body d :=
  ⟨(setFnCount_length sh id c).symm ▸ h.lt, by rw [setFnCount_getD]; split <;> exact h.body,
    by rw [setFnCount_getD]; split <;> exact h.dict, h.dlt, h.self⟩

theorem RecFn.copyDict (d' : Nat) (h : RecFn sh n F body d) : RecFn (copyDict sh d').2 n F body d :=
  ⟨h.lt, h.body, h.dict, by show d < (sh.dicts ++ [_]).length; rw [List.length_append]; exact Nat.lt_add_right _ h.dlt,
    (congrArg _ (getD_append_lt _ _ _ h.dlt)).trans h.self⟩

/-- in an inline body of an activation of `F`, `n` still names `F`: the body's dictionary is a copy of `d` -/
theorem RecFn.lookup_copy (h : RecFn sh n F body d) :
    lookupDef n ((TV.copyDict sh d).2.dicts.getD (TV.copyDict sh d).1 []) = some F :=
  (congrArg _ (getD_append_length _ _ _)).trans h.self

theorem RecFn.callFrame (h : RecFn sh n F body d) (c : Nat) :
    callFrame (sh.fns.getD F default) F c = callFrame ⟨body, d, 0⟩ F c := by
  rw [TV.callFrame, h.body, h.dict]; rfl

theorem RecFn.defState (hd : d < sh.dicts.length) : RecFn (TV.defState sh d n body) n sh.fns.length body d := by
  have hg : (sh.fns ++ [(⟨body, d, 0⟩ : Fn)]).getD sh.fns.length default = ⟨body, d, 0⟩ := getD_append_length _ _ _
  refine ⟨?_, congrArg Fn.body hg, congrArg Fn.dict hg, ?_, ?_⟩
  · show _ < (sh.fns ++ [_]).length; simp
  · show _ < (sh.dicts.set _ _).length; simpa using hd
  · show lookupDef n ((sh.dicts.set _ _).getD d []) = _
    simp [List.getD_eq_getElem?_getD, hd, lookupDef]

end recfn
end TV
