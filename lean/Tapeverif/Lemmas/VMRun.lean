import Tapeverif.Lemmas.VMInv
import Tapeverif.Model.Auth
/-! The kernel invariants for a whole tape (`runTape_post`) and for a list of scripts (`runAuthRest_post`). -/
namespace TV

variable (T : UInt8 → Op) (L : Limits)

def Res.shared : Res → Shared
  | .ok _ sh => sh
  | .err _ sh => sh

def Res.isGhost : Res → Bool
  | .err .ghost _ => true
  | _ => false

theorem post_shared {sh : Shared} {r : Res} (h : Post L sh r) :
    StackInv L r.shared ∧ StrFrame sh r.shared ∧ r.isGhost = false := by
  cases r with
  | ok fr sh' => exact ⟨h.1, h.2.1, rfl⟩
  | err e sh' =>
    refine ⟨h.1, h.2.1, ?_⟩
    cases e <;> simp [Res.isGhost] at *
    exact h.2.2.1 rfl

theorem initShared_inv (cache : List (CKey × CVal)) : StackInv L (initShared cache) := by
  unfold StackInv initShared; simp

theorem runTape_post (fuel : Nat) (fr : Frame) (sh : Shared) (hi : StackInv L sh)
    (hr : sh.returned = false) : Post L sh (runTape T L fuel fr sh) :=
  (post_main T fuel).2.2 fr sh hi (notRet hr)

/-- one script of the list, then the others: the form every fact about `runTape` lifts through -/
theorem runAuthRest_cons (fuel : Nat) (s : Bytes) (rest : List Bytes) (count : Nat) (sh : Shared) :
    runAuthRest T L fuel (s :: rest) count sh =
      (runTape T L fuel (topFrame s count) { sh with returned := false }).bind fun fr sh' =>
        runAuthRest T L fuel rest fr.count sh' := rfl

/-- invariants across a whole `run_auth_scripts` list -/
theorem runAuthRest_post (fuel : Nat) : ∀ (scripts : List Bytes) (count : Nat) (sh : Shared),
    StackInv L sh → Post L sh (runAuthRest T L fuel scripts count sh)
  | [], _, _, hi => ⟨hi, .refl _, fun _ => rfl⟩
  | s :: rest, count, sh, hi =>
    .of_cache rfl ((runTape_post T L fuel (topFrame s count) { sh with returned := false } hi rfl).bind
      fun f s' hs _ => runAuthRest_post fuel rest f.count s' hs)

end TV
