import Tapeverif.Lemmas.Kernel
/-! # Soft-fork simulation

`OpSim op' op`: `op'` is `op` except that at some leaves it may `abort` (fail uncatchably)
where `op` would go on. If every entry of table `T'` is related this way to the entry of `T`,
then every run under `T'` either aborts or is *identical* (same outcome, same frame, same
shared state, catchable errors included) to the run under `T`. -/
namespace TV

inductive OpSim : Op → Op → Prop
  | abort (op : Op) : OpSim .abort op
  | done : OpSim .done .done
  | fail (e : ErrKind) : OpSim (.fail e) (.fail e)
  | ret : OpSim .ret .ret
  | read (n : Nat) (k' k : Bytes → Op) : (∀ b, OpSim (k' b) (k b)) → OpSim (.read n k') (.read n k)
  | pop (k' k : Bytes → Op) : (∀ b, OpSim (k' b) (k b)) → OpSim (.pop k') (.pop k)
  | peekTop (k' k : Bytes → Op) : (∀ b, OpSim (k' b) (k b)) → OpSim (.peekTop k') (.peekTop k)
  | depth (k' k : Nat → Op) : (∀ n, OpSim (k' n) (k n)) → OpSim (.depth k') (.depth k)
  | push (b : Bytes) (k' k : Op) : OpSim k' k → OpSim (.push b k') (.push b k)
  | cacheGet (key : CKey) (k' k : Option CVal → Op) : (∀ v, OpSim (k' v) (k v)) →
      OpSim (.cacheGet key k') (.cacheGet key k)
  | cachePut (key : Bytes) (v : CVal) (k' k : Op) : OpSim k' k → OpSim (.cachePut key v k') (.cachePut key v k)
  | rand (n : Nat) (k' k : Bytes → Op) : (∀ b, OpSim (k' b) (k b)) → OpSim (.rand n k') (.rand n k)
  | log (t : Nat) (k' k : Op) : OpSim k' k → OpSim (.log t k') (.log t k)
  | guardCount (k' k : Op) : OpSim k' k → OpSim (.guardCount k') (.guardCount k)
  | define (h : UInt8) (body : Bytes) (k' k : Op) : OpSim k' k → OpSim (.define h body k') (.define h body k)
  | call (h : UInt8) (k' k : Op) : OpSim k' k → OpSim (.call h k') (.call h k)
  | sub (kind : SubKind) (body : Bytes) (k' k : Op) : OpSim k' k → OpSim (.sub kind body k') (.sub kind body k)
  | tryCatch (b1 b2 : Bytes) (k' k : Op) : OpSim k' k → OpSim (.tryCatch b1 b2 k') (.tryCatch b1 b2 k)
  | loop (body : Bytes) (k' k : Op) : OpSim k' k → OpSim (.loop body k') (.loop body k)

theorem OpSim.refl (op : Op) : OpSim op op := by
  induction op <;> constructor <;> assumption

/-- the run under the forked table aborted, or is identical to the run under the old table -/
def Sim (r' r : Res) : Prop := r' = r ∨ ∃ sh, r' = .err .abort sh

theorem Sim.rfl' (r : Res) : Sim r r := Or.inl rfl

theorem Sim.bind {X' X : Res} {g' g : Frame → Shared → Res} (hX : Sim X' X) (hg : ∀ f s, Sim (g' f s) (g f s)) :
    Sim (X'.bind g') (X.bind g) := by
  rcases hX with rfl | ⟨s, rfl⟩
  · cases X' with
    | err e s => exact .rfl' _
    | ok f s => exact hg f s
  · exact Or.inr ⟨s, rfl⟩

/-- a primitive of the forked op that succeeds is the same primitive of the old op -/
theorem OpSim.prim {L : Limits} {op' op k' : Op} {fr fr' : Frame} {sh sh' : Shared} (hs : OpSim op' op)
    (h : Prim L op' fr sh k' fr' sh') : ∃ k, Prim L op fr sh k fr' sh' ∧ OpSim k' k := by
  cases h <;> cases hs <;> exact ⟨_, by constructor <;> assumption, by apply_assumption⟩

theorem OpSim.raises {L : Limits} {op' op : Op} {fr : Frame} {sh : Shared} {e : ErrKind} (hs : OpSim op' op)
    (h : Raises L op' fr sh e) : Raises L op fr sh e := by
  cases h with
  | pushFull h2 => cases hs; exact .pushFull h2   -- `constructor` would take `pushBig`
  | _ => cases hs; constructor <;> assumption

variable (T' T : UInt8 → Op) (L : Limits)

theorem sim (hT : ∀ c, OpSim (T' c) (T c)) (fuel : Nat) :
    (∀ op' op fr sh, OpSim op' op → Sim (runOp T' L fuel op' fr sh) (runOp T L fuel op fr sh)) ∧
    (∀ budget lc body k' k fr sh, OpSim k' k →
        Sim (runLoop T' L fuel budget lc body k' fr sh) (runLoop T L fuel budget lc body k fr sh)) ∧
    (∀ fr sh, Sim (runTape T' L fuel fr sh) (runTape T L fuel fr sh)) := by
  induction fuel with
  | zero => refine ⟨?_, ?_, ?_⟩ <;> intros <;> simp [runOp_zero, runLoop_zero, runTape_zero, Sim]
  | succ n ih =>
    obtain ⟨ihO, ihL, ihT⟩ := ih
    have after : ∀ (fr : Frame) (s : Shared) (k' k : Op), OpSim k' k →
        Sim (afterBody T' L n k' fr s) (afterBody T L n k fr s) := by
      intro fr s k' k hk
      unfold afterBody
      split
      · exact .rfl' _
      · exact ihO _ _ _ _ hk
    refine ⟨?_, ?_, ?_⟩
    · intro op' op fr sh hs
      cases shape L op' fr sh with
      | abort => exact Or.inr ⟨sh, rfl⟩
      | done => cases hs; exact .rfl' _
      | ret => cases hs; exact .rfl' _
      | raises h => rw [runOp_raises T' h, runOp_raises T (hs.raises h)]; exact .rfl' _
      | prim h =>
        obtain ⟨k, hk, hsk⟩ := hs.prim h
        rw [runOp_prim T' h, runOp_prim T hk]
        exact ihO _ _ _ _ hsk
      | call hc =>
        cases hs with | call _ _ _ hk =>
        rw [runOp_call T' hc, runOp_call T hc]
        dsimp only
        split
        · exact .rfl' _
        · exact (ihT _ _).bind fun _ _ => ihO _ _ _ _ hk
      | inline =>
        cases hs with | sub _ _ _ _ hk =>
        rw [runOp_inline, runOp_inline]
        exact (ihT _ _).bind fun _ s => after fr s _ _ hk
      | eval hc =>
        cases hs with | sub _ _ _ _ hk =>
        rw [runOp_eval T' hc, runOp_eval T hc]
        refine (ihT _ _).bind fun _ s => ?_
        split
        · exact .rfl' _
        · exact ihO _ _ _ _ hk
      | @tryCatch body =>
        cases hs with | tryCatch _ _ _ _ hk =>
        rw [runOp_tryCatch, runOp_tryCatch]
        rcases ihT (inlineFrame body fr sh) (copyDict sh fr.dict).2 with heq | ⟨s, hab⟩
        · rw [heq]
          split
          · exact after fr _ _ _ hk
          · exact (ihT _ _).bind fun _ s => after fr s _ _ hk
          · exact .rfl' _
        · rw [hab]; exact Or.inr ⟨s, rfl⟩
      | loop hne =>
        cases hs with | loop _ _ _ hk =>
        rw [runOp_loop T' hne, runOp_loop T hne]
        exact ihL _ _ _ _ _ _ _ hk
    · intro budget lc body k' k fr sh hk
      cases loopShape budget sh with
      | empty hs => rw [runLoop_empty T' hs, runLoop_empty T hs]; exact .rfl' _
      | exit hs ht => rw [runLoop_exit T' hs ht, runLoop_exit T hs ht]; exact ihO _ _ _ _ hk
      | spent hs ht => rw [runLoop_spent T' hs ht, runLoop_spent T hs ht]; exact .rfl' _
      | iter hs ht =>
        rw [runLoop_iter T' hs ht, runLoop_iter T hs ht]
        refine Sim.bind (ihT _ sh) fun f s => ?_
        split
        · exact .rfl' _
        · exact ihL _ _ _ _ _ _ _ hk
    · intro fr sh
      cases tapeShape fr sh with
      | nil h => rw [runTape_nil T' h, runTape_nil T h]; exact .rfl' _
      | guard h hc => rw [runTape_guard T' h hc, runTape_guard T h hc]; exact .rfl' _
      | ghost h hc hr => rw [runTape_ghost T' h hc hr, runTape_ghost T h hc hr]; exact .rfl' _
      | fetch h hc hr =>
        rw [runTape_cons T' h hc hr, runTape_cons T h hc hr]
        exact Sim.bind (ihO _ _ _ sh (hT _)) fun _ _ => ihT _ _

end TV
