import Mathlib.Data.List.Perm.Subperm

/-! OP_CHECK_MULTISIG's greedy matching, abstractly: soundness (unconditional) and completeness
    (under "unique signer"). Uses Mathlib's `List.Subperm`. -/
namespace TV.Greedy
variable {σ κ : Type} [DecidableEq σ] [DecidableEq κ]

def step (v : σ → κ → Bool) (acc : List σ × List κ) (s : σ) : List σ × List κ :=
  match acc.2.find? (v s) with
  | some k => (if s ∈ acc.1 then acc.1 else s :: acc.1, acc.2.erase k)
  | none => acc

def greedy (v : σ → κ → Bool) (sigs : List σ) (ks : List κ) : Bool :=
  (sigs.foldl (step v) ([], ks)).1.length == sigs.length

variable (v : σ → κ → Bool)

theorem step_new {acc : List σ × List κ} {s : σ} {k : κ} (hk : acc.2.find? (v s) = some k)
    (hs : s ∉ acc.1) : step v acc s = (s :: acc.1, acc.2.erase k) := by
  simp [step, hk, hs]

/-- a step confirms at most one signature; if it does confirm one, that is `s`, it is new, and a
    listed key under which it is valid is used up -/
theorem step_len (acc : List σ × List κ) (s : σ) :
    (step v acc s).1.length ≤ acc.1.length + 1 ∧
    (acc.1.length < (step v acc s).1.length →
      s ∉ acc.1 ∧ ∃ k ∈ acc.2, v s k = true ∧ step v acc s = (s :: acc.1, acc.2.erase k)) := by
  cases hk : acc.2.find? (v s) with
  | none => simp [step, hk]
  | some k =>
    by_cases hs : s ∈ acc.1
    · simp [step, hk, hs]
    · exact ⟨by simp [step_new v hk hs], fun _ =>
        ⟨hs, k, List.mem_of_find?_eq_some hk, List.find?_some hk, step_new v hk hs⟩⟩

/-- the fold confirms at most `l`; if it confirms all of `l`, they are distinct and new, and are
    matched in order to keys that it has removed from `acc.2` -/
theorem fold_sound (l : List σ) (acc : List σ × List κ) :
    (l.foldl (step v) acc).1.length ≤ acc.1.length + l.length ∧
    (acc.1.length + l.length ≤ (l.foldl (step v) acc).1.length →
      l.Nodup ∧ (∀ x ∈ l, x ∉ acc.1) ∧
      ∃ ms, List.Forall₂ (fun s k => v s k = true) l ms ∧ (ms ++ (l.foldl (step v) acc).2).Perm acc.2) := by
  induction l generalizing acc with
  | nil => simp
  | cons s t ih =>
    rw [List.foldl_cons, List.length_cons]
    obtain ⟨hle, hgrow⟩ := step_len v acc s
    refine ⟨by have := (ih (step v acc s)).1; omega, fun h => ?_⟩
    obtain ⟨hs, k, hk, hv, hstep⟩ := hgrow (by have := (ih (step v acc s)).1; omega)
    rw [hstep] at h ⊢
    obtain ⟨hnd, hdis, ms, hf, hp⟩ := (ih (s :: acc.1, acc.2.erase k)).2 (by rw [List.length_cons]; omega)
    exact ⟨List.nodup_cons.2 ⟨fun hst => hdis s hst (.head _), hnd⟩,
      List.forall_mem_cons.2 ⟨hs, fun x hx hc => hdis x hx (.tail _ hc)⟩,
      k :: ms, .cons hv hf, (hp.cons k).trans (List.perm_cons_erase hk).symm⟩

/-- Soundness: the verdict is true only if the signatures are pairwise distinct and can be matched,
    in order, to a sub-multiset of the listed keys. -/
theorem greedy_sound (v : σ → κ → Bool) (sigs : List σ) (ks : List κ)
    (h : greedy v sigs ks = true) :
    sigs.Nodup ∧ ∃ ms, List.Forall₂ (fun s k => v s k = true) sigs ms ∧ ms.Subperm ks := by
  obtain ⟨hnd, _, ms, hf, hp⟩ := (fold_sound v sigs ([], ks)).2 (by simp [greedy] at h; simp [h])
  exact ⟨hnd, ms, hf, (List.sublist_append_left ms _).subperm.trans hp.subperm⟩

/-- Completeness under "unique signer": all keys under which a signature verifies are equal. -/
theorem fold_complete (H : ∀ s k k', v s k = true → v s k' = true → k = k') (l : List σ)
    (acc : List σ × List κ) (ms : List κ) (hnd : l.Nodup) (hdis : ∀ x ∈ l, x ∉ acc.1)
    (hf : List.Forall₂ (fun s k => v s k = true) l ms) (hsub : ms.Subperm acc.2) :
    (l.foldl (step v) acc).1.length = acc.1.length + l.length := by
  induction hf generalizing acc with
  | nil => rfl
  | @cons s m t ms' hv _ ih =>
    rw [List.nodup_cons] at hnd
    rw [List.forall_mem_cons] at hdis
    -- `find?` succeeds since `m` is listed, and by uniqueness what it finds is `m`
    obtain ⟨k, hk⟩ := Option.isSome_iff_exists.1 (List.find?_isSome.2 ⟨m, hsub.subset (.head _), hv⟩)
    obtain rfl := H s k m (List.find?_some hk) hv
    rw [List.foldl_cons, step_new v hk hdis.1,
      ih _ hnd.2 (fun x hx hc => ?_) (by simpa using hsub.erase k), List.length_cons, List.length_cons]
    · omega
    · rcases List.mem_cons.1 hc with rfl | hc
      exacts [hnd.1 hx, hdis.2 x hx hc]

theorem greedy_complete (v : σ → κ → Bool) (H : ∀ s k k', v s k = true → v s k' = true → k = k')
    (sigs : List σ) (ks ms : List κ) (hnd : sigs.Nodup)
    (hf : List.Forall₂ (fun s k => v s k = true) sigs ms) (hsub : ms.Subperm ks) :
    greedy v sigs ks = true := by
  simpa [greedy] using fold_complete v H sigs ([], ks) ms hnd (by simp) hf hsub

end TV.Greedy
