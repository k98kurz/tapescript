import Mathlib.Algebra.Module.Basic
/-! Group-level facts behind the adapter-signature, taproot and AMHL constructions.
    `P` is any commutative group written additively (the curve), `G` its base point, `L` a
    number with `L • G = 0` (the group order). Scalars are natural numbers, as in the model
    (`Model/Crypto.lean` reduces them `% L`). Most statements are `smul_mod` followed by an
    identity of commutative groups. -/
namespace TV.Algebra

variable {P : Type} [AddCommGroup P] (G : P) (L : ℕ) (hL : L • G = 0)

include hL in
/-- reducing a scalar mod `L` does not change the point it derives -/
theorem smul_mod (a : ℕ) : (a % L) • G = a • G := (nsmul_eq_mod_nsmul a hL).symm

include hL in
/-- the adapter equation: `sa = r + ca·x (mod L)` satisfies `sa•G = R + ca•X` -/
theorem adapter_check (r ca x : ℕ) :
    ((r + ca * x) % L) • G = r • G + ca • (x • G) := by
  rw [smul_mod G L hL, add_nsmul, mul_nsmul']

include hL in
/-- The adapter decrypted with `t` is a signature for the nonce point `R + T` (under the challenge
    `ca` computed from `R + T`) exactly when `t` is the scalar of `T`: the left side is
    `R + ca•X + t•G`. -/
theorem decrypt_iff (r ca x t : ℕ) (T : P) :
    ((((r + ca * x) % L) + t) % L) • G = (r • G + T) + ca • (x • G) ↔ t • G = T := by
  rw [smul_mod G L hL, add_nsmul, adapter_check G L hL, add_right_comm, add_left_inj,
    add_right_inj]

include hL in
/-- decrypting with `t`: `s = sa + t (mod L)` satisfies the Ed25519 equation for the nonce point
    `R + T` under the *same* challenge `ca` (which was computed from `R + T`) -/
theorem decrypt_is_signature (r ca x t : ℕ) :
    ((((r + ca * x) % L) + t) % L) • G = (r • G + t • G) + ca • (x • G) :=
  (decrypt_iff G L hL r ca x t _).mpr rfl

/-- from the decrypted signature and the adapter anyone recovers the tweak: `t = s − sa (mod L)` -/
theorem recover_tweak (sa t : ℤ) (L : ℤ) : ((sa + t) % L - sa) % L = t % L := by
  rw [Int.emod_sub_emod, Int.add_comm, Int.add_sub_cancel]

include hL in
/-- decrypting with any scalar whose point is not `T` does not give a signature for `R + T` -/
theorem wrong_tweak_not_signature (r ca x t' : ℕ) (T : P) (hT : t' • G ≠ T) :
    ((((r + ca * x) % L) + t') % L) • G ≠ (r • G + T) + ca • (x • G) :=
  (decrypt_iff G L hL r ca x t' T).not.mpr hT

include hL in
/-- the adapter itself is not a signature for the nonce point `R + T` unless `T = 0` -/
theorem adapter_not_signature (r ca x : ℕ) (T : P) (hT : T ≠ 0) :
    ((r + ca * x) % L) • G ≠ (r • G + T) + ca • (x • G) := by
  -- the adapter is its own decryption with `0`
  have h := wrong_tweak_not_signature G L hL r ca x 0 T (zero_nsmul G ▸ hT.symm)
  rwa [Nat.add_zero, Nat.mod_mod] at h

include hL in
/-- the scalar of `x • G` alone does not derive `x • G + T` unless `T = 0` -/
theorem untweaked_ne (x : ℕ) (T : P) (hT : T ≠ 0) : (x % L) • G ≠ x • G + T := by
  rw [smul_mod G L hL]
  exact fun h => hT (left_eq_add.mp h)

include hL in
/-- taproot key spend: the scalar `x + t (mod L)` derives the root `x•G + t•G` -/
theorem taproot_keyspend_scalar (x t : ℕ) : ((x + t) % L) • G = x • G + t • G := by
  rw [smul_mod G L hL, add_nsmul]

/-- AMHL setup: the running sum of points is the point of the running sum of scalars -/
theorem amhl_partial_sums (ys : List ℕ) :
    (ys.map (· • G)).sum = ys.sum • G := by
  induction ys with
  | nil => rw [List.map_nil, List.sum_nil, List.sum_nil, zero_nsmul]
  | cons y r ih => rw [List.map_cons, List.sum_cons, List.sum_cons, add_nsmul, ih]

include hL in
/-- AMHL release subtracts in the group: `release(k, y) = k + (L − y mod L) mod L` derives
    `k•G − y•G`, since `(L − y mod L)•G + (y mod L)•G = L•G = 0` -/
theorem amhl_release (hpos : 0 < L) (k y : ℕ) :
    ((k + (L - y % L) % L) % L) • G = k • G - y • G := by
  have hneg : (L - y % L) • G = -(y • G) := by
    rw [← smul_mod G L hL y, eq_neg_iff_add_eq_zero, ← add_nsmul,
      Nat.sub_add_cancel (Nat.le_of_lt (Nat.mod_lt y hpos)), hL]
  rw [smul_mod G L hL, add_nsmul, smul_mod G L hL, hneg, sub_eq_add_neg]

include hL in
/-- a whole run of releases subtracts the sum of the released secrets, in whatever order -/
theorem amhl_release_foldl (hpos : 0 < L) (ys : List ℕ) (k : ℕ) :
    (ys.foldl (fun k y => (k + (L - y % L) % L) % L) k) • G = k • G - ys.sum • G := by
  induction ys generalizing k with
  | nil => rw [List.foldl_nil, List.sum_nil, zero_nsmul, sub_zero]
  | cons y r ih =>
    rw [List.foldl_cons, ih, amhl_release G L hL hpos, List.sum_cons, add_nsmul, sub_sub]

end TV.Algebra
