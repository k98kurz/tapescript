import Tapeverif.Lemmas.BigStep
import Tapeverif.Lemmas.Codec
import Tapeverif.Lemmas.SigRefine
import Tapeverif.Props.C16
import Tapeverif.Model.Tools
/-! # One rule per instruction

Each instruction the lock builders use, as a big-step rule in front of an arbitrary continuation `k`,
for any op table: operands are read from the frame's tape (`hrest`), arguments popped from a stack of
the shape `hs`, and the run goes on as `k` in the state the instruction leaves. The room an instruction
asks for is counted above `st`, the part of the stack it leaves untouched: one slot for each item it
pushes. The `run_*` rules (`RunInstr`: a rule read at the head of a tape under the real op table) and the
`Run` rules (`RunRel`, through `Run.instr` / `Run.raise`) are both these at `k = .done`. -/
namespace TV
open Instr Tools

variable {T : UInt8 → Op} {L : Limits} {k : Op} {fr : Frame} {sh : Shared} {r : Res} {st : List Bytes} {x a b c : Bytes}
  {rest : Bytes}

theorem u2_of_nat (n : Nat) (h : n < 65536) : natOfBytesBE (u2 n) = n := natOf_natTo_of_lt h

theorem Steps.readN {n : Nat} {k : Bytes → Op} {v : Bytes} (hv : v.length = n) (hrest : fr.rest = v ++ rest)
    (h : Steps T L (k v) { fr with rest := rest } sh r) : Steps T L (.read n k) fr sh r := by
  subst hv
  refine .read (by simp [hrest]) ?_
  simpa [hrest] using h

theorem Steps.readU2 {k : Nat → Op} {n : Nat} (hn : n < 65536) (hrest : fr.rest = u2 n ++ rest)
    (h : Steps T L (k n) { fr with rest := rest } sh r) : Steps T L (readU2 k) fr sh r :=
  .readN (natToBytesBE_length 2 n) hrest (by rw [show natOfBytesBE (natToBytesBE 2 n) = n from u2_of_nat n hn]; exact h)

theorem sigExt_nil {cfg : Cfg} (hno : cfg.sigExts = []) (k : Op) : sigExt cfg k = k := by
  unfold sigExt; rw [hno]; rfl

theorem Steps.opPush0 {v : Bytes} (hv : v.length = 1) (hrest : fr.rest = v ++ rest) (hsz : v.length ≤ L.maxItemSize)
    (hroom : sh.stack.length < L.maxItems) (h : Steps T L k { fr with rest := rest } { sh with stack := v :: sh.stack } r) :
    Steps T L (opPush0 k) fr sh r :=
  .readN hv hrest (.push hsz hroom h)

theorem Steps.opPush1 {v : Bytes} (hv : v.length < 256) (hrest : fr.rest = natToBytesBE 1 v.length ++ (v ++ rest))
    (hsz : v.length ≤ L.maxItemSize) (hroom : sh.stack.length < L.maxItems)
    (h : Steps T L k { fr with rest := rest } { sh with stack := v :: sh.stack } r) : Steps T L (opPush1 k) fr sh r :=
  .readN (natToBytesBE_length 1 _) hrest (by
    rw [natOf_natTo_of_lt (show v.length < 256 ^ 1 from hv)]
    exact .readN rfl rfl (.push hsz hroom h))

theorem Steps.opPush2 {v : Bytes} (hv : v.length < 65536) (hrest : fr.rest = u2 v.length ++ (v ++ rest))
    (hsz : v.length ≤ L.maxItemSize) (hroom : sh.stack.length < L.maxItems)
    (h : Steps T L k { fr with rest := rest } { sh with stack := v :: sh.stack } r) : Steps T L (opPush2 k) fr sh r :=
  .readU2 hv hrest (.readN rfl rfl (.push hsz hroom h))

theorem Steps.opDup (hs : sh.stack = x :: st) (hsz : x.length ≤ L.maxItemSize) (hroom : st.length + 1 < L.maxItems)
    (h : Steps T L k fr { sh with stack := x :: x :: st } r) : Steps T L (opDup k) fr sh r :=
  .pop x st hs (.push hsz (Nat.lt_of_succ_lt hroom) (.push hsz hroom h))

theorem Steps.opSwap2 (hs : sh.stack = a :: b :: st) (ha : a.length ≤ L.maxItemSize) (hb : b.length ≤ L.maxItemSize)
    (hroom : st.length + 1 < L.maxItems) (h : Steps T L k fr { sh with stack := b :: a :: st } r) :
    Steps T L (opSwap2 k) fr sh r :=
  .pop a (b :: st) hs (.pop b st rfl (.push ha (Nat.lt_of_succ_lt hroom) (.push hb hroom h)))

/-- `OP_SWAP 1 2`, indices read: exchanges the second and third items -/
theorem Steps.swap12 (hs : sh.stack = a :: b :: c :: st) (ha : a.length ≤ L.maxItemSize) (hb : b.length ≤ L.maxItemSize)
    (hc : c.length ≤ L.maxItemSize) (hroom : st.length + 2 < L.maxItems)
    (h : Steps T L k fr { sh with stack := a :: c :: b :: st } r) : Steps T L (swapCore 1 2 k) fr sh r := by
  refine .depth ?_
  rw [hs]
  exact .pop a (b :: c :: st) hs (.pop b (c :: st) rfl (.pop c st rfl
    (.push hb (Nat.lt_of_succ_lt (Nat.lt_of_succ_lt hroom)) (.push hc (Nat.lt_of_succ_lt hroom) (.push ha hroom h)))))

theorem Steps.opSwap12 (hrest : fr.rest = 1 :: 2 :: rest) (hs : sh.stack = a :: b :: c :: st) (ha : a.length ≤ L.maxItemSize)
    (hb : b.length ≤ L.maxItemSize) (hc : c.length ≤ L.maxItemSize) (hroom : st.length + 2 < L.maxItems)
    (h : Steps T L k { fr with rest := rest } { sh with stack := a :: c :: b :: st } r) : Steps T L (opSwap k) fr sh r :=
  .readU1 (n := 1) (by decide) hrest (.readU1 (n := 2) (by decide) rfl (.swap12 hs ha hb hc hroom h))

theorem Steps.opNot (hs : sh.stack = x :: st) (hsz : x.length ≤ L.maxItemSize) (hroom : st.length < L.maxItems)
    (h : Steps T L k fr { sh with stack := notBytes x :: st } r) : Steps T L (opNot k) fr sh r :=
  .pop x st hs (.push (by rwa [notBytes, List.length_map]) hroom h)

theorem zipWithPad_length (f : UInt8 → UInt8 → UInt8) (a b : Bytes) : (zipWithPad f a b).length = max a.length b.length := by
  fun_induction zipWithPad f a b <;> simp [*]

theorem andBytes_length_le {a b : Bytes} {n : Nat} (ha : a.length ≤ n) (hb : b.length ≤ n) : (andBytes a b).length ≤ n := by
  rw [andBytes, zipWithPad_length]; omega

theorem Steps.bitop {f : Bytes → Bytes → Bytes} (hs : sh.stack = a :: b :: st) (hsz : (f a b).length ≤ L.maxItemSize)
    (hroom : st.length < L.maxItems) (h : Steps T L k fr { sh with stack := f a b :: st } r) :
    Steps T L (bitop f k) fr sh r :=
  .pop a (b :: st) hs (.pop b st rfl (.push hsz hroom h))

/-- `OP_CONCAT`: the top item is appended to the one below it -/
theorem Steps.opConcat {first second : Bytes} (hs : sh.stack = second :: first :: st)
    (hsz : (first ++ second).length ≤ L.maxItemSize) (hroom : st.length < L.maxItems)
    (h : Steps T L k fr { sh with stack := (first ++ second) :: st } r) : Steps T L (opConcat k) fr sh r :=
  .pop second (first :: st) hs (.pop first st rfl (.push hsz hroom h))

theorem Steps.opSplit {ib item : Bytes} {idx : Nat} (hs : sh.stack = ib :: item :: st) (hib : bytesToInt ib = some (idx : Int))
    (hidx : idx < item.length) (hsz : item.length ≤ L.maxItemSize) (hroom : st.length + 1 < L.maxItems)
    (h : Steps T L k fr { sh with stack := item.drop idx :: item.take idx :: st } r) : Steps T L (opSplit k) fr sh r := by
  refine .popInt hib hs (.pop item st rfl ?_)
  rw [if_neg (by omega), Int.toNat_natCast, if_pos hidx]
  exact .push (by rw [List.length_take]; omega) (Nat.lt_of_succ_lt hroom) (.push (by rw [List.length_drop]; omega) hroom h)

theorem Steps.opSha256 {H : Hashes} (hs : sh.stack = x :: st) (hsz : (H.sha256 x).length ≤ L.maxItemSize)
    (hroom : st.length < L.maxItems) (h : Steps T L k fr { sh with stack := H.sha256 x :: st } r) :
    Steps T L (opSha256 H k) fr sh r :=
  .pop x st hs (.push hsz hroom h)

theorem Steps.opShake256 {H : Hashes} {n : Nat} (hn : n < 256) (hrest : fr.rest = UInt8.ofNat n :: rest) (hs : sh.stack = x :: st)
    (hsz : (H.shake256 x n).length ≤ L.maxItemSize) (hroom : st.length < L.maxItems)
    (h : Steps T L k { fr with rest := rest } { sh with stack := H.shake256 x n :: st } r) : Steps T L (opShake256 H k) fr sh r :=
  .readU1 hn hrest (.pop x st hs (.push hsz hroom h))

theorem Steps.opEqual (hs : sh.stack = a :: b :: st) (h1 : 1 ≤ L.maxItemSize) (hroom : st.length < L.maxItems)
    (h : Steps T L k fr { sh with stack := boolBytes (a == b) :: st } r) : Steps T L (opEqual k) fr sh r :=
  .pop a (b :: st) hs (.pop b st rfl (.pushBool h1 hroom h))

theorem Steps.opVerify_true (hs : sh.stack = x :: st) (hx : truthy x = true) (h : Steps T L k fr { sh with stack := st } r) :
    Steps T L (opVerify k) fr sh r :=
  .pop x st hs (by rw [if_pos hx]; exact h)

theorem Steps.opVerify_false (hs : sh.stack = x :: st) (hx : truthy x = false) :
    Steps T L (opVerify k) fr sh (.err (.user .see) { sh with stack := st }) :=
  .pop x st hs (by rw [if_neg (ne_true_of_eq_false hx)]; exact .fail _ _ _)

theorem Steps.opEqualVerify_eq (hs : sh.stack = a :: a :: st) (h1 : 1 ≤ L.maxItemSize) (hroom : st.length < L.maxItems)
    (h : Steps T L k fr { sh with stack := st } r) : Steps T L (opEqualVerify k) fr sh r :=
  .opEqual hs h1 hroom (.opVerify_true rfl (by rw [truthy_boolBytes, beq_self_eq_true]) h)

theorem Steps.opEqualVerify_ne (hs : sh.stack = a :: b :: st) (hab : a ≠ b) (h1 : 1 ≤ L.maxItemSize)
    (hroom : st.length < L.maxItems) :
    Steps T L (opEqualVerify k) fr sh (.err (.user .see) { sh with stack := st }) :=
  .opEqual hs h1 hroom (.opVerify_false rfl (by rw [truthy_boolBytes, beq_eq_false_iff_ne.mpr hab]))

/-- `OP_POP0` (the popped item is remembered in `cache[b'P']`) -/
theorem Steps.opPop0 (hs : sh.stack = x :: st)
    (h : Steps T L k fr { sh with stack := st, cache := (.byt pKey, .list [.bytes x]) :: sh.cache } r) :
    Steps T L (opPop0 k) fr sh r :=
  .pop x st hs (.cachePut (by rw [if_neg (by decide)]; exact h))

theorem Steps.opWriteCache1 {kb : Bytes} (hkl : kb.length < 256) (hk : kb ≠ eKey)
    (hrest : fr.rest = UInt8.ofNat kb.length :: (kb ++ 1 :: rest)) (hs : sh.stack = x :: st)
    (h : Steps T L k { fr with rest := rest } { sh with stack := st, cache := (.byt kb, .list [.bytes x]) :: sh.cache } r) :
    Steps T L (opWriteCache k) fr sh r :=
  .readU1 hkl hrest (.readN rfl rfl (.readU1 (n := 1) (by decide) rfl (.pop x st hs (.cachePut (by rw [if_neg hk]; exact h)))))

theorem Steps.opReadCache1 {kb : Bytes} (hkl : kb.length < 256) (hk : kb ≠ eKey) (hrest : fr.rest = UInt8.ofNat kb.length :: (kb ++ rest))
    (hv : lookupC (.byt kb) sh.cache = some (.list [.bytes x])) (hsz : x.length ≤ L.maxItemSize)
    (hroom : sh.stack.length < L.maxItems) (h : Steps T L k { fr with rest := rest } { sh with stack := x :: sh.stack } r) :
    Steps T L (opReadCache k) fr sh r :=
  .readU1 hkl hrest (.readN rfl rfl (.cacheGet_byt hk (by rw [hv]; exact .push hsz hroom h)))

theorem Steps.opCheckSigStack {H : Hashes} {C : Curve} {vkey m sig : Bytes} (hs : sh.stack = vkey :: m :: sig :: st)
    (hv : vkey.length = 32) (hsl : sig.length = 64) (h1 : 1 ≤ L.maxItemSize) (hroom : st.length < L.maxItems)
    (h : Steps T L k fr { sh with stack := boolBytes (Sodium.verify H C vkey m sig) :: st } r) :
    Steps T L (opCheckSigStack H C k) fr sh r := by
  refine .pop vkey _ hs ?_
  rw [if_neg (by simp [hv])]
  refine .pop m _ rfl (.pop sig st rfl ?_)
  rw [if_neg (by simp [hsl])]
  exact .pushBool h1 hroom h

/-- big-step form of `checkSigCore_refines` -/
theorem checkSigCore_steps (H : Hashes) (C : Curve) {T : UInt8 → Op} {L : Limits} (allowed : Nat) (k : Op) (fr : Frame) (sh : Shared)
    (vkey sig : Bytes) (st : List Bytes) (r : Res) (hs : sh.stack = vkey :: sig :: st)
    (h1 : 1 ≤ L.maxItemSize) (h2 : st.length < L.maxItems)
    (h : match SigPure.checkSig H C L.maxItemSize sh.cache allowed sig vkey with
         | .ok b => Steps T L k fr { sh with stack := boolBytes b :: st } r
         | .error e => r = .err (.user e) { sh with stack := st }) :
    Steps T L (checkSigCore H C allowed k) fr sh r := by
  have href n := checkSigCore_refines T L H C allowed k n fr sh vkey sig st hs h1 h2
  split at h
  next b hc => exact steps_of_eq 13 (fun n => by rw [href, hc]) h
  next e hc => exact h ▸ ⟨0 + 13, by rw [href, hc], rfl⟩

theorem Steps.checkSigCore_done {H : Hashes} {C : Curve} {allowed : Nat} {vkey sig : Bytes} (hs : sh.stack = vkey :: sig :: st)
    (h1 : 1 ≤ L.maxItemSize) (hroom : st.length < L.maxItems) :
    Steps T L (checkSigCore H C allowed .done) fr sh
      (match SigPure.checkSig H C L.maxItemSize sh.cache allowed sig vkey with
       | .ok b => .ok fr { sh with stack := boolBytes b :: st }
       | .error e => .err (.user e) { sh with stack := st }) :=
  checkSigCore_steps H C allowed .done fr sh vkey sig st _ hs h1 hroom (by
    cases SigPure.checkSig H C L.maxItemSize sh.cache allowed sig vkey
    · rfl
    · exact .done _ _)

theorem Steps.opCheckTimestamp {cfg : Cfg} {t thr : Int} (hs : sh.stack = c :: st) (hc : c ≠ [])
    (ht : lookupC C16.tsKey sh.cache = some (.atom (.int t))) (hthr : cfg.tsThreshold = some thr)
    (h1 : 1 ≤ L.maxItemSize) (hroom : st.length < L.maxItems)
    (h : Steps T L k fr { sh with stack := boolBytes (C16.tsAccept t cfg.now thr c) :: st } r) :
    Steps T L (opCheckTimestamp cfg k) fr sh r :=
  steps_of_eq 3 (fun n => C16.checkTimestamp_iff T L cfg n k fr sh c st t thr hc hs ht hthr h1 hroom) h

theorem Steps.sub_inline_ok {body : Bytes} {fr' : Frame} {sh' : Shared}
    (hb : TSteps T L (inlineFrame body fr sh) (copyDict sh fr.dict).2 (.ok fr' sh'))
    (hret : sh'.returned = false) (h : Steps T L k fr sh' r) : Steps T L (.sub .inline body k) fr sh r :=
  .nested (runOp_inline T · body k fr sh) hb
    (by simp only [Res.bind_ok, afterBody, hret, Bool.false_eq_true, ↓reduceIte]; exact h.settles)

theorem Steps.sub_inline_err {body : Bytes} {sh' : Shared} {e : Err}
    (hb : TSteps T L (inlineFrame body fr sh) (copyDict sh fr.dict).2 (.err e sh')) :
    Steps T L (.sub .inline body k) fr sh (.err e sh') :=
  .nested (runOp_inline T · body k fr sh) hb (.const hb.settles.1)

/-- what the enclosing tape sees of an IF / ELSE body: an error propagates; otherwise it goes on
    (or, if the body executed RETURN, ends) with the body's state -/
def wrapInline (fr : Frame) : Res → Res
  | .err e s => .err e s
  | .ok _ s => if s.returned then .ok (endFrame fr) s else .ok fr s

theorem Steps.sub_inline_done {body : Bytes} {rB : Res}
    (hb : TSteps T L (inlineFrame body fr sh) (copyDict sh fr.dict).2 rB) :
    Steps T L (.sub .inline body .done) fr sh (wrapInline fr rB) :=
  .nested (runOp_inline T · body .done fr sh) hb (by
    cases rB with
    | err e s => exact .const hb.settles.1
    | ok f s =>
      simp only [Res.bind_ok, afterBody, wrapInline]
      split
      · exact .const rfl
      · exact (Steps.done fr s).settles)

theorem Steps.opIfElse (ha : a.length < 65536) (hb : b.length < 65536)
    (hrest : fr.rest = u2 a.length ++ (a ++ (u2 b.length ++ (b ++ rest)))) (hs : sh.stack = c :: st)
    (h : Steps T L (.sub .inline (if truthy c then a else b) k) { fr with rest := rest } { sh with stack := st } r) :
    Steps T L (opIfElse k) fr sh r :=
  .readU2 ha hrest (.readN rfl rfl (.readU2 hb rfl (.readN rfl rfl (.pop c st hs h))))

/-- what the caller of an evaluated script sees: an error propagates; a RETURN propagates when
    the `eval_return` flag is set; otherwise the caller continues with the flag cleared -/
def wrapEval (er : Bool) (fr : Frame) : Res → Res
  | .err e s => .err e s
  | .ok _ s => if s.returned && er then .ok (endFrame fr) s else .ok fr { s with returned := false }

theorem wrapEval_wrapEval (er : Bool) (f f' : Frame) (r : Res) :
    wrapEval er f (wrapEval er f' r) = wrapEval er f r := by
  cases r with
  | err e s => rfl
  | ok g s =>
    unfold wrapEval
    by_cases h : (s.returned && er) = true
    · simp [h]
    · simp [h]

theorem Steps.sub_eval_done {p : Bool} {body : Bytes} {rB : Res} (hc : getCount fr sh < L.callLimit)
    (hb : TSteps T L (evalFrame body (getCount fr sh) (copyDict sh fr.dict).1) (copyDict sh fr.dict).2 rB) :
    Steps T L (.sub (.eval p) body .done) fr sh (wrapEval p fr rB) :=
  .nested (runOp_eval T hc · p body .done) hb (by
    cases rB with
    | err e s => exact .const hb.settles.1
    | ok f s =>
      simp only [Res.bind_ok, wrapEval]
      split
      · exact .const rfl
      · exact (Steps.done _ _).settles)

theorem Steps.opEval_done {cfg : Cfg} (hev : cfg.disallowEval = false) {script : Bytes} {rB : Res}
    (hs : sh.stack = script :: st) (hne : script ≠ [])
    (hc : getCount fr sh < cfg.lim.callLimit)
    (hb : TSteps T cfg.lim (evalFrame script (getCount fr sh) (copyDict { sh with stack := st } fr.dict).1)
            (copyDict { sh with stack := st } fr.dict).2 rB) :
    Steps T cfg.lim (opEval cfg .done) fr sh (wrapEval cfg.evalReturn fr rB) := by
  unfold opEval
  rw [hev, if_neg Bool.false_ne_true]
  refine .guardCount hc (.pop script st hs ?_)
  rw [if_neg hne]
  exact .sub_eval_done hc hb

end TV
