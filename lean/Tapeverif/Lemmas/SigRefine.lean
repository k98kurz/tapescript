import Tapeverif.Lemmas.Exec
import Tapeverif.Model.SigPure
/-! The `Op` terms of GET_MESSAGE / CHECK_SIG compute the pure specifications of
    `Model/SigPure.lean` (symbolic execution, for an arbitrary op table and crypto). -/
namespace TV

open Instr

variable (T : UInt8 → Op) (L : Limits) (H : Hashes) (C : Curve)

theorem getMessageFrom_refines (flag : Nat) : ∀ (fuel i : Nat) (acc : Bytes) (k : Bytes → Op)
    (n : Nat) (fr : Frame) (sh : Shared),
    runOp T L (n + 1 + fuel) (getMessageFrom flag fuel i acc k) fr sh =
      (match SigPure.msgFrom flag sh.cache fuel i with
       | .ok m => runOp T L (n + 1) (k (acc ++ m)) fr sh
       | .error e => .err (.user e) sh) := by
  intro fuel
  induction fuel with
  | zero => intro i acc k n fr sh; rw [getMessageFrom, SigPure.msgFrom]; simp [pure, Except.pure]
  | succ f ih =>
    intro i acc k n fr sh
    have hfail : runOp T L (n + 1 + f) (.fail .type) fr sh = .err (.user .type) sh :=
      Nat.add_right_comm n 1 f ▸ runOp_fail T L (n + f) .type fr sh
    have hkey : sigfieldKey i = CKey.str (asciiBytes ("sigfield" ++ toString i)) := rfl
    rw [getMessageFrom, SigPure.msgFrom, ← Nat.add_assoc, hkey, runOp_cacheGet_str, ← hkey]
    cases lookupC (sigfieldKey i) sh.cache with
    | none => exact ih ..
    | some v =>
      dsimp only
      split
      · exact ih ..
      · cases v with
        | list l => exact hfail
        | atom a =>
          cases a with
          | bytes b | bytearray b =>
            rw [ih]
            cases SigPure.msgFrom flag sh.cache f (i + 1) <;> simp [Functor.map, Except.map]
          | _ => exact hfail

/-- `OP_CHECK_SIG allowed` (after its plugins and operand read): pops key and signature, and
    either fails with exactly the error of the specification — leaving both popped — or pushes
    exactly the Boolean of the specification and continues. -/
theorem checkSigCore_refines (allowed : Nat) (k : Op) (n : Nat) (fr : Frame) (sh : Shared)
    (vkey sig : Bytes) (st : List Bytes) (hs : sh.stack = vkey :: sig :: st)
    (h1 : 1 ≤ L.maxItemSize) (h2 : st.length < L.maxItems) :
    runOp T L (n + 13) (checkSigCore H C allowed k) fr sh =
      (match SigPure.checkSig H C L.maxItemSize sh.cache allowed sig vkey with
       | .ok b => runOp T L n k fr { sh with stack := boolBytes b :: st }
       | .error e => .err (.user e) { sh with stack := st }) := by
  have hfail (e : ErrKind) : runOp T L (n + 11) (.fail e) fr { sh with stack := st } = _ := runOp_fail ..
  unfold checkSigCore SigPure.checkSig
  rw [runOp_pop T L _ _ fr sh vkey (sig :: st) hs, runOp_pop T L _ _ fr _ sig st rfl]
  -- the same tests guard both sides: `by_cases` with `if_pos`/`if_neg` on both, since `split` is
  -- several times dearer on a goal of this size
  by_cases hv : vkey.length ≠ 32
  · rw [if_pos hv, if_pos hv]; exact hfail _
  rw [if_neg hv, if_neg hv]
  by_cases hl : sig.length ≠ 64 ∧ sig.length ≠ 65
  · rw [if_pos hl, if_pos hl]; exact hfail _
  rw [if_neg hl, if_neg hl]
  generalize (if sig.length = 64 then 0 else (sig.getLast?.getD 0).toNat) = flag
  by_cases hfl : (!flagsAllowed flag allowed) = true
  · rw [if_pos hfl, if_pos hfl]; exact hfail _
  rw [if_neg hfl, if_neg hfl]
  unfold getMessageCore SigPure.message
  rw [show n + 11 = (n + 2) + 1 + 8 by omega, getMessageFrom_refines]
  cases SigPure.msgFrom _ sh.cache 8 1 with
  | error e => rfl
  | ok m =>
    simp only [bind, Except.bind, List.nil_append]
    by_cases hm : m.length ≤ L.maxItemSize
    · rw [if_pos hm, runOp_push T L _ _ _ fr _ hm h2, runOp_pop T L _ _ fr _ m st rfl,
        runOp_pushBool T L _ _ _ fr _ h1 h2]
      rfl
    · rw [if_neg hm]
      exact runOp_raises T (.pushBig hm) _

end TV
