import Tapeverif.Lemmas.RunInstr
/-! # `Run`: the instruction rules as a relation on (free slots, tape, stack, entries written)

A lock theorem executes the lock's bytes instruction by instruction. What a straight-line instruction leaves
alone — the frame apart from its tape, the shared state apart from stack and cache, `fr.len0 < fr.cap`,
`sh.returned = false` — is fixed by `Run` and supplied once, on entering (`Run.ends`, `Run.top`). Stack room is
kept by unification: an instruction that grows the stack by one asks for `k + 1` free slots and hands on `k`.
A script only ever writes `bytes` keys, so the cache is `sh.cache` under the entries written so far, and
whatever reads `str` keys (the clock, the signed message) is stated of `sh.cache` itself. The rule of an
instruction is its `Steps` rule (`Lemmas/InstrSteps.lean`) through `Run.instr` / `Run.raise`, under the name of the
builders' mnemonic (`Run.css` for `CSS`, `Run.cts` for `opc CTS`, `Run.and` for `opc 88`). -/
namespace TV
open Instr Tools

abbrev Cache := List (CKey × CVal)
/-- entries a script has written, latest first -/
abbrev Written := List (Bytes × CVal)

def written (wr : Written) (base : Cache) : Cache := wr.map (fun e => (CKey.byt e.1, e.2)) ++ base

theorem lookupC_str_cons_byt (s kb : Bytes) (v : CVal) (c : List (CKey × CVal)) :
    lookupC (.str s) ((.byt kb, v) :: c) = lookupC (.str s) c := by
  simp [lookupC]

theorem msgFrom_cons_byt (flag : Nat) (kb : Bytes) (v : CVal) (c : List (CKey × CVal)) :
    ∀ (fuel i : Nat), SigPure.msgFrom flag ((.byt kb, v) :: c) fuel i = SigPure.msgFrom flag c fuel i := by
  intro fuel
  induction fuel with
  | zero => intro i; rfl
  | succ n ih =>
    intro i
    simp only [SigPure.msgFrom, sigfieldKey, lookupC_str_cons_byt, ih]

theorem lookupC_str_written (s : Bytes) (wr : Written) (base : Cache) :
    lookupC (.str s) (written wr base) = lookupC (.str s) base := by
  induction wr with
  | nil => rfl
  | cons e wr ih => exact (lookupC_str_cons_byt s e.1 e.2 _).trans ih

theorem message_written (flag : Nat) (wr : Written) (base : Cache) :
    SigPure.message flag (written wr base) = SigPure.message flag base := by
  induction wr with
  | nil => rfl
  | cons e wr ih => exact (msgFrom_cons_byt flag e.1 e.2 _ 8 1).trans ih

theorem checkSig_written (H : Hashes) (C : Curve) (m : Nat) (wr : Written) (base : Cache) (allowed : Nat) (sig vkey : Bytes) :
    SigPure.checkSig H C m (written wr base) allowed sig vkey = SigPure.checkSig H C m base allowed sig vkey := by
  simp only [SigPure.checkSig, message_written]

theorem lookupC_written {key : CKey} {wr : Written} {v : CVal} {base : Cache} (h : lookupC key (written wr []) = some v) :
    lookupC key (written wr base) = some v := by
  induction wr with
  | nil => cases h
  | cons e wr ih =>
    unfold written at h ih ⊢
    simp only [List.map_cons, List.cons_append, lookupC] at h ih ⊢
    split
    · rwa [if_pos ‹_›] at h
    · rw [if_neg ‹_›] at h; exact ih h

def Frame.cont (fr : Frame) (tape : Bytes) : Frame := { fr with rest := tape }

def Shared.upd (sh : Shared) (st : List Bytes) (wr : Written) : Shared :=
  { sh with stack := st, cache := written wr sh.cache }

/-- from `fr.cont tape` and `sh.upd st wr`, with at least `k` free stack slots, the run ends, in an
    outcome satisfying `P` -/
def Run (H : Hashes) (C : Curve) (cfg : Cfg) (fr : Frame) (sh : Shared) (k : Nat) (tape : Bytes) (st : List Bytes)
    (wr : Written) (P : Res → Prop) : Prop :=
  fr.len0 < fr.cap → sh.returned = false → st.length + k ≤ cfg.lim.maxItems →
    Ends (instrTable H C cfg) cfg.lim (fr.cont tape) (sh.upd st wr) P

variable {H : Hashes} {C : Curve} {cfg : Cfg} {fr : Frame} {sh : Shared} {k : Nat} {rest : Bytes} {st : List Bytes}
  {wr : Written} {P : Res → Prop}

/-- entering: an `Ends` goal from a `Run` of the frame's tape on the state's stack, nothing written yet -/
theorem Run.ends {T : Bytes} {st : List Bytes} (k : Nat) (hT : fr.rest = T) (hs : sh.stack = st) (hcap : fr.len0 < fr.cap)
    (hr : sh.returned = false) (hroom : st.length + k ≤ cfg.lim.maxItems) (h : Run H C cfg fr sh k T st [] P) :
    Ends (instrTable H C cfg) cfg.lim fr sh P := by
  subst hT hs
  exact h hcap hr hroom

/-- entering a lock run from the top, its bytes written as the instruction sequence `T` -/
theorem Run.top {lock T : Bytes} {st : List Bytes} {count : Nat} (k : Nat) (hT : lock = T) (hs : sh.stack = st)
    (hr : sh.returned = false) (hroom : st.length + k ≤ cfg.lim.maxItems)
    (h : Run H C cfg (topFrame lock count) sh k T st [] P) :
    Ends (instrTable H C cfg) cfg.lim (topFrame lock count) sh P :=
  Run.ends k hT hs (Nat.lt_succ_self _) hr hroom h

/-- leaving: what is known of the state reached is enough -/
theorem Run.exact {tape : Bytes} (h : Ends (instrTable H C cfg) cfg.lim (fr.cont tape) (sh.upd st wr) P) :
    Run H C cfg fr sh k tape st wr P := fun _ _ _ => h

theorem Run.nil (h : P (.ok (fr.cont []) (sh.upd st wr))) : Run H C cfg fr sh k [] st wr P :=
  fun _ _ _ => ⟨_, TSteps.nil rfl, h⟩

/-- for the last instruction of a tape -/
theorem Run.last {tape : Bytes} (h : Run H C cfg fr sh k (tape ++ []) st wr P) : Run H C cfg fr sh k tape st wr P := by
  rwa [List.append_nil] at h

/-- how the instruction rules are made: the instruction's rule of `InstrSteps` at the head of the tape, and the slots
    it needs -/
theorem Run.instr {k' : Nat} {c : UInt8} {tl rest : Bytes} {st st' : List Bytes} {wr wr' : Written}
    (h : Run H C cfg fr sh k' rest st' wr' P)
    (hk : st.length + k ≤ cfg.lim.maxItems → st'.length + k' ≤ cfg.lim.maxItems)
    (hstep : st.length + k ≤ cfg.lim.maxItems → Steps (instrTable H C cfg) cfg.lim (instrTable H C cfg c) (fr.cont tl)
      (sh.upd st wr) (.ok (fr.cont rest) (sh.upd st' wr'))) :
    Run H C cfg fr sh k (c :: tl) st wr P :=
  fun hcap hr hroom =>
    let ⟨r, hT, hP⟩ := h hcap hr (hk hroom)
    ⟨r, run_instr (fr.cont (c :: tl)) _ _ _ c tl r rfl hcap hr (hstep hroom) hT, hP⟩

theorem Run.raise {c : UInt8} {tl : Bytes} {e : Err} {s : Shared}
    (hstep : st.length + k ≤ cfg.lim.maxItems →
      Steps (instrTable H C cfg) cfg.lim (instrTable H C cfg c) (fr.cont tl) (sh.upd st wr) (.err e s))
    (h : P (.err e s)) : Run H C cfg fr sh k (c :: tl) st wr P :=
  fun hcap hr hroom => ⟨_, TSteps.cons_err c tl rfl hcap hr (hstep hroom), h⟩

theorem pushInt_eq (z : Int) : Tools.pushInt z = pushB (intToBytes z) := rfl

theorem pushB_length_le (v : Bytes) : (pushB v).length ≤ v.length + 3 := by
  unfold pushB pushBytes
  split
  · simp [opc]
  · split
    · simp [opc, natToBytesBE_length]; omega
    · split <;> simp [opc, natToBytesBE_length]; omega

theorem ifElse_length (a b : Bytes) : (ifElse a b).length = a.length + b.length + 5 := by
  simp [ifElse, opc, u2, natToBytesBE_length]; omega

theorem asciiBytes_length (key : String) : (asciiBytes key).length = key.length := by
  simp [asciiBytes, String.length_toList]

theorem opc_length (n : Nat) : (opc n).length = 1 := rfl
theorem CHECK_SIG_length (flags : Nat) : (CHECK_SIG flags).length = 2 := rfl
theorem CALL_length (h : Nat) : (CALL h).length = 2 := rfl

theorem readCache_length (key : String) : (readCache key).length = key.length + 2 := by
  simp only [readCache, List.length_append, opc_length, asciiBytes_length]; omega

theorem writeCache_length (key : String) (n : Nat) : (writeCache key n).length = key.length + 3 := by
  simp only [writeCache, List.length_append, opc_length, asciiBytes_length]; omega

theorem writeCache_bytes (key : String) (rest : Bytes) :
    writeCache key 1 ++ rest = 9 :: UInt8.ofNat (asciiBytes key).length :: (asciiBytes key ++ 1 :: rest) := by
  simp [writeCache, opc, asciiBytes, String.length_toList]

theorem readCache_bytes (key : String) (rest : Bytes) :
    readCache key ++ rest = 10 :: UInt8.ofNat (asciiBytes key).length :: (asciiBytes key ++ rest) := by
  simp [readCache, opc, asciiBytes, String.length_toList]

/-- a builder's cache variable: a short name other than `E` -/
def VarName (key : String) : Prop := (asciiBytes key).length < 256 ∧ asciiBytes key ≠ eKey

theorem varName_b : VarName "b" := ⟨by decide, by decide⟩
theorem varName_c : VarName "c" := ⟨by decide, by decide⟩
theorem varName_d : VarName "d" := ⟨by decide, by decide⟩
theorem varName_e : VarName "e" := ⟨by decide, by decide⟩
theorem varName_k : VarName "k" := ⟨by decide, by decide⟩
theorem varName_r : VarName "r" := ⟨by decide, by decide⟩
theorem varName_s : VarName "s" := ⟨by decide, by decide⟩
theorem varName_R : VarName "R" := ⟨by decide, by decide⟩
theorem varName_sa : VarName "sa" := ⟨by decide, by decide⟩
theorem varName_t : VarName "t" := ⟨by decide, by decide⟩

/-- the timestamp the embedder put in the cache, and the threshold it configured -/
structure Clock (cfg : Cfg) (base : Cache) (t thr : Int) : Prop where
  ts : lookupC C16.tsKey base = some (.atom (.int t))
  thr : cfg.tsThreshold = some thr

theorem Clock.written {t thr : Int} (h : Clock cfg sh.cache t thr) (wr : Written) :
    lookupC C16.tsKey (written wr sh.cache) = some (.atom (.int t)) :=
  (lookupC_str_written _ wr _).trans h.ts

/-- what `OP_CHECK_SIG` leaves for the verdict -/
def sigOutcome (r : Except ErrKind Bool) (st : List Bytes) : Except Err (List Bytes) :=
  match r with
  | .ok b => .ok (boolBytes b :: st)
  | .error e => .error (.user e)

theorem sigOutcome_accepts (r : Except ErrKind Bool) : sigOutcome r [] = .ok [[0xff]] ↔ r = .ok true := by
  cases r with
  | error e => simp [sigOutcome]
  | ok b => cases b <;> simp [sigOutcome, boolBytes]

/-- reading a specification written as guards that end in an error: an `ok` outcome passed each of them -/
theorem ite_error_eq_ok {α ε : Type} {c : Prop} [Decidable c] {x : Except ε α} {e : ε} {a : α} :
    (if c then x else .error e) = .ok a ↔ c ∧ x = .ok a := by
  split <;> simp [*]

theorem error_ite_eq_ok {α ε : Type} {c : Prop} [Decidable c] {x : Except ε α} {e : ε} {a : α} :
    (if c then .error e else x) = .ok a ↔ ¬ c ∧ x = .ok a := by
  split <;> simp [*]

section rules
variable {x a b : Bytes}

/-- the slot arithmetic of a rule: stack lengths spelt out, then linear -/
macro "slots" : tactic => `(tactic| (simp only [List.length_cons] at *; omega))

theorem Run.pushB {v : Bytes} (h0 : 0 < v.length) (h1 : v.length < 65536) (hsz : v.length ≤ cfg.lim.maxItemSize)
    (h : Run H C cfg fr sh k rest (v :: st) wr P) : Run H C cfg fr sh (k + 1) (pushB v ++ rest) st wr P :=
  fun hcap hr hk => Ends.step (fun r =>
    run_pushB H C cfg (fr.cont _) (sh.upd st wr) v rest r h0 h1 rfl hcap hr hsz (by show st.length < _; omega)) (h hcap hr (by slots))

/-- the builders' push of a 32-byte key or point -/
theorem Run.pushKey {v : Bytes} (hv : v.length = 32) (hsz : 32 ≤ cfg.lim.maxItemSize)
    (h : Run H C cfg fr sh k rest (v :: st) wr P) : Run H C cfg fr sh (k + 1) (Tools.pushB v ++ rest) st wr P :=
  Run.pushB (by omega) (by omega) (by omega) h

theorem Run.pushInt {z : Int} (h1 : (intToBytes z).length < 65536) (hsz : (intToBytes z).length ≤ cfg.lim.maxItemSize)
    (h : Run H C cfg fr sh k rest (intToBytes z :: st) wr P) : Run H C cfg fr sh (k + 1) (Tools.pushInt z ++ rest) st wr P :=
  Run.pushB (List.length_pos_iff.mpr (intToBytes_ne_nil z)) h1 hsz h

theorem Run.dup (hsz : x.length ≤ cfg.lim.maxItemSize) (h : Run H C cfg fr sh k rest (x :: x :: st) wr P) :
    Run H C cfg fr sh (k + 1) (DUP ++ rest) (x :: st) wr P :=
  Run.instr (c := 29) h (by slots) fun hk => .opDup rfl hsz (by slots) (.done _ _)

theorem Run.pop0 (h : Run H C cfg fr sh (k + 1) rest st ((pKey, .list [.bytes x]) :: wr) P) :
    Run H C cfg fr sh k (POP0 ++ rest) (x :: st) wr P :=
  Run.instr (c := 6) h (by slots) fun _ => .opPop0 rfl (.done _ _)

theorem Run.swap2 (ha : a.length ≤ cfg.lim.maxItemSize) (hb : b.length ≤ cfg.lim.maxItemSize)
    (h : Run H C cfg fr sh k rest (b :: a :: st) wr P) : Run H C cfg fr sh k (SWAP2 ++ rest) (a :: b :: st) wr P :=
  Run.instr (c := 53) h (by slots) fun hk => .opSwap2 rfl ha hb (by slots) (.done _ _)

theorem Run.swap12 {c : Bytes} (ha : a.length ≤ cfg.lim.maxItemSize) (hb : b.length ≤ cfg.lim.maxItemSize)
    (hc : c.length ≤ cfg.lim.maxItemSize) (h : Run H C cfg fr sh k rest (a :: c :: b :: st) wr P) :
    Run H C cfg fr sh k (SWAP 1 2 ++ rest) (a :: b :: c :: st) wr P :=
  Run.instr (c := 52) h (by slots) fun hk => .opSwap12 rfl rfl ha hb hc (by slots) (.done _ _)

theorem Run.not (hsz : x.length ≤ cfg.lim.maxItemSize) (h : Run H C cfg fr sh k rest (notBytes x :: st) wr P) :
    Run H C cfg fr sh k (opc NOT ++ rest) (x :: st) wr P :=
  Run.instr (c := 46) h (by slots) fun hk => .opNot rfl hsz (by slots) (.done _ _)

/-- `OP_AND` -/
theorem Run.and (hsz : (andBytes a b).length ≤ cfg.lim.maxItemSize) (h : Run H C cfg fr sh (k + 1) rest (andBytes a b :: st) wr P) :
    Run H C cfg fr sh k (opc 88 ++ rest) (a :: b :: st) wr P :=
  Run.instr (c := 88) h (by slots) fun hk => .bitop rfl hsz (by slots) (.done _ _)

/-- `OP_CONCAT`: the top item is appended to the one below it -/
theorem Run.concat {first second : Bytes} (hsz : (first ++ second).length ≤ cfg.lim.maxItemSize)
    (h : Run H C cfg fr sh (k + 1) rest ((first ++ second) :: st) wr P) :
    Run H C cfg fr sh k (CONCAT ++ rest) (second :: first :: st) wr P :=
  Run.instr (c := 55) h (by slots) fun hk => .opConcat rfl hsz (by slots) (.done _ _)

theorem Run.sha256 (hsz : (H.sha256 x).length ≤ cfg.lim.maxItemSize) (h : Run H C cfg fr sh k rest (H.sha256 x :: st) wr P) :
    Run H C cfg fr sh k (SHA256 ++ rest) (x :: st) wr P :=
  Run.instr (c := 30) h (by slots) fun hk => .opSha256 rfl hsz (by slots) (.done _ _)

theorem Run.shake256 {n : Nat} (hn : n < 256) (hsz : (H.shake256 x n).length ≤ cfg.lim.maxItemSize)
    (h : Run H C cfg fr sh k rest (H.shake256 x n :: st) wr P) :
    Run H C cfg fr sh k (SHAKE256 n ++ rest) (x :: st) wr P :=
  Run.instr (c := 31) h (by slots) fun hk => .opShake256 hn rfl rfl hsz (by slots) (.done _ _)

/-- `dup shake256 <n> push <the hash of y>`: how the builders commit to a key or a script `y` by its `n`-byte hash; an
    EQUAL_VERIFY follows, at once or after the IF / ELSE whose arms end this way -/
theorem Run.hashCommit {n : Nat} {y : Bytes} (hn : n < 256) (hH : ∀ x, (H.shake256 x n).length = n) (hn0 : 0 < n)
    (hsz : n ≤ cfg.lim.maxItemSize) (hx : x.length ≤ cfg.lim.maxItemSize)
    (h : Run H C cfg fr sh k rest (H.shake256 y n :: H.shake256 x n :: x :: st) wr P) :
    Run H C cfg fr sh (k + 2) (DUP ++ (SHAKE256 n ++ (Tools.pushB (H.shake256 y n) ++ rest))) (x :: st) wr P := by
  have hlx := hH x
  have hly := hH y
  exact Run.dup hx <| Run.shake256 hn (by omega) <| Run.pushB (by omega) (by omega) (by omega) h

theorem Run.split {ib item : Bytes} (idx : Nat) (hib : bytesToInt ib = some (idx : Int)) (hidx : idx < item.length)
    (hsz : item.length ≤ cfg.lim.maxItemSize) (h : Run H C cfg fr sh k rest (item.drop idx :: item.take idx :: st) wr P) :
    Run H C cfg fr sh k (SPLIT ++ rest) (ib :: item :: st) wr P :=
  Run.instr (c := 56) h (by slots) fun hk => .opSplit rfl hib hidx hsz (by slots) (.done _ _)

/-- the builders' `push d<n> split` on an item `p ++ q` with `p` of length `n`: the two parts -/
theorem Run.splitAt {p q : Bytes} (n : Nat) (hn : (intToBytes n).length = 1) (hp : p.length = n) (hq : 0 < q.length)
    (hsz : n + q.length ≤ cfg.lim.maxItemSize) (h : Run H C cfg fr sh k rest (q :: p :: st) wr P) :
    Run H C cfg fr sh (k + 1) (Tools.pushInt n ++ (SPLIT ++ rest)) ((p ++ q) :: st) wr P := by
  subst hp
  refine Run.pushInt (by omega) (by omega) (Run.split p.length (decode_encode _) (by simp only [List.length_append]; omega)
    (by simp only [List.length_append]; omega) ?_)
  rwa [List.drop_left, List.take_left]

theorem Run.writeCache {key : String} (hkey : VarName key)
    (h : Run H C cfg fr sh (k + 1) rest st ((asciiBytes key, .list [.bytes x]) :: wr) P) :
    Run H C cfg fr sh k (writeCache key 1 ++ rest) (x :: st) wr P :=
  writeCache_bytes key rest ▸ Run.instr (c := 9) h (by slots) fun _ => .opWriteCache1 hkey.1 hkey.2 rfl rfl (.done _ _)

/-- the entry is looked up among those written: with closed keys, by evaluation -/
theorem Run.readCache {key : String} (hkey : VarName key)
    (hv : lookupC (.byt (asciiBytes key)) (written wr []) = some (.list [.bytes x]))
    (hsz : x.length ≤ cfg.lim.maxItemSize) (h : Run H C cfg fr sh k rest (x :: st) wr P) :
    Run H C cfg fr sh (k + 1) (readCache key ++ rest) st wr P :=
  readCache_bytes key rest ▸ Run.instr (c := 10) h (by slots) fun hk =>
    .opReadCache1 hkey.1 hkey.2 rfl (lookupC_written hv) hsz (by show st.length < _; omega) (.done _ _)

theorem Run.css {vkey m sig : Bytes} (hv : vkey.length = 32) (hsl : sig.length = 64) (h1 : 1 ≤ cfg.lim.maxItemSize)
    (h : Run H C cfg fr sh (k + 2) rest (boolBytes (Sodium.verify H C vkey m sig) :: st) wr P) :
    Run H C cfg fr sh k (CSS ++ rest) (vkey :: m :: sig :: st) wr P :=
  Run.instr (c := 74) h (by slots) fun hk => .opCheckSigStack rfl hv hsl h1 (by slots) (.done _ _)

theorem Run.equal (h1 : 1 ≤ cfg.lim.maxItemSize) (h : Run H C cfg fr sh (k + 1) rest (boolBytes (a == b) :: st) wr P) :
    Run H C cfg fr sh k (EQUAL ++ rest) (a :: b :: st) wr P :=
  Run.instr (c := 33) h (by slots) fun hk => .opEqual rfl h1 (by slots) (.done _ _)

/-- `v`, the item's truth value, is a hypothesis of its own: for an item known as `boolBytes v` both goals speak of `v` -/
theorem Run.verify {v : Bool} (hx : truthy x = v) (ht : v = true → Run H C cfg fr sh (k + 1) rest st wr P)
    (hf : v = false → P (.err (.user .see) (sh.upd st wr))) :
    Run H C cfg fr sh k (opc VERIFY ++ rest) (x :: st) wr P := by
  cases v
  · exact Run.raise (c := 32) (fun _ => .opVerify_false rfl hx) (hf rfl)
  · exact Run.instr (c := 32) (ht rfl) (by slots) fun _ => .opVerify_true rfl hx (.done _ _)

theorem Run.equalVerify (h1 : 1 ≤ cfg.lim.maxItemSize) (ht : a = b → Run H C cfg fr sh (k + 2) rest st wr P)
    (hf : a ≠ b → P (.err (.user .see) (sh.upd st wr))) :
    Run H C cfg fr sh k (EQUAL_VERIFY ++ rest) (a :: b :: st) wr P := by
  by_cases hab : a = b
  · subst hab
    exact Run.instr (c := 34) (ht rfl) (by slots) fun hk => .opEqualVerify_eq rfl h1 (by slots) (.done _ _)
  · exact Run.raise (c := 34) (fun hk => .opEqualVerify_ne rfl hab h1 (by slots)) (hf hab)

theorem Run.cts {c : Bytes} {t thr : Int} (hclk : Clock cfg sh.cache t thr) (hc : c ≠ []) (h1 : 1 ≤ cfg.lim.maxItemSize)
    (h : Run H C cfg fr sh k rest (boolBytes (C16.tsAccept t cfg.now thr c) :: st) wr P) :
    Run H C cfg fr sh k (opc CTS ++ rest) (c :: st) wr P :=
  Run.instr (c := 37) h (by slots) fun hk => .opCheckTimestamp rfl hc (hclk.written wr) hclk.thr h1 (by slots) (.done _ _)

theorem Run.ctsv {c : Bytes} {t thr : Int} (hclk : Clock cfg sh.cache t thr) (hc : c ≠ []) (h1 : 1 ≤ cfg.lim.maxItemSize)
    (ht : C16.tsAccept t cfg.now thr c = true → Run H C cfg fr sh (k + 1) rest st wr P)
    (hf : C16.tsAccept t cfg.now thr c = false → P (.err (.user .see) (sh.upd st wr))) :
    Run H C cfg fr sh k (opc CTSV ++ rest) (c :: st) wr P := by
  cases hx : C16.tsAccept t cfg.now thr c
  · exact Run.raise (c := 38) (fun hk => .opCheckTimestamp rfl hc (hclk.written wr) hclk.thr h1 (by slots)
      (.opVerify_false rfl (by rw [hx]; rfl))) (hf hx)
  · exact Run.instr (c := 38) (ht hx) (by slots) fun hk => .opCheckTimestamp rfl hc (hclk.written wr) hclk.thr h1 (by slots)
      (.opVerify_true rfl (by rw [hx]; rfl) (.done _ _))

/-- `OP_CHECK_SIG <flags>` closing the tape: the C02 outcome, read in the embedder's cache -/
theorem Run.checkSig_last {flags : Nat} {vkey sig : Bytes} (hno : cfg.sigExts = []) (hfl : flags < 256)
    (h1 : 1 ≤ cfg.lim.maxItemSize)
    (h : ∀ r, Res.summary r = sigOutcome (SigPure.checkSig H C cfg.lim.maxItemSize sh.cache flags sig vkey) st → P r) :
    Run H C cfg fr sh k (CHECK_SIG flags) (vkey :: sig :: st) wr P :=
  fun hcap hr hk => ⟨_, run_checksig_last H C cfg hno (fr.cont _) (sh.upd _ wr) flags vkey sig st rfl hfl hcap hr rfl h1 (by slots),
    h _ (by
      show Res.summary (match SigPure.checkSig H C cfg.lim.maxItemSize (written wr sh.cache) flags sig vkey with
        | .ok b => _ | .error e => _) = _
      rw [checkSig_written]
      cases SigPure.checkSig H C cfg.lim.maxItemSize sh.cache flags sig vkey <;> rfl)⟩

/-- `sh` as an inline body finds it: the frame's dictionary copied -/
def Shared.copied (sh : Shared) (d : Nat) : Shared := { sh with dicts := sh.dicts ++ [sh.dicts.getD d []] }

/-- what is wanted of an inline body of frame `fr`: its error is the run's outcome; otherwise (no RETURN)
    `P` of the run of `rest`, the tape `fr` has left, from the state the body leaves -/
def After (H : Hashes) (C : Curve) (cfg : Cfg) (fr : Frame) (rest : Bytes) (P : Res → Prop) : Res → Prop
  | .err e s => P (.err e s)
  | .ok _ s => s.returned = false ∧ (fr.len0 < fr.cap → Ends (instrTable H C cfg) cfg.lim (fr.cont rest) s P)

/-- the end of an inline body: go on with the enclosing frame's tape -/
theorem Run.after {frB : Frame} (h : Run H C cfg fr sh k rest st wr P) :
    Run H C cfg frB sh k [] st wr (After H C cfg fr rest P) :=
  fun _ hr hk => ⟨_, TSteps.nil rfl, hr, fun hcap => h hcap hr hk⟩

theorem After.err {e : Err} {s : Shared} (h : P (.err e s)) : After H C cfg fr rest P (.err e s) := h

/-- `OP_IF_ELSE`: the chosen body runs in its inline frame, then the tape goes on -/
theorem Run.ifElse {c : Bytes} (ha : a.length < 65536) (hb : b.length < 65536)
    (hlen : (if truthy c then a else b).length < fr.len0)
    (hbody : Run H C cfg (inlineFrame (if truthy c then a else b) fr sh) (sh.copied fr.dict) (k + 1)
      (if truthy c then a else b) st wr (After H C cfg fr rest P)) :
    Run H C cfg fr sh k (ifElse a b ++ rest) (c :: st) wr P := by
  rw [ifElse_bytes]
  intro hcap hr hk
  obtain ⟨rB, hB, hA⟩ := hbody hlen hr (by slots)
  cases rB with
  | err e s => exact ⟨_, .cons_err 44 _ rfl hcap hr (.opIfElse ha hb rfl rfl (.sub_inline_err hB)), hA⟩
  | ok f s =>
    obtain ⟨r, hT, hP⟩ := hA.2 hcap
    exact ⟨r, run_instr (fr.cont _) _ _ _ 44 _ r rfl hcap hr (.opIfElse ha hb rfl rfl (.sub_inline_ok hB hA.1 (.done _ _))) hT, hP⟩

/-- `OP_IF_ELSE` closing the tape: the run ends as the enclosing tape sees its chosen body end -/
theorem Run.ifElse_last {c : Bytes} (ha : a.length < 65536) (hb : b.length < 65536)
    (hlen : (if truthy c then a else b).length < fr.len0)
    (hbody : Run H C cfg (inlineFrame (if truthy c then a else b) fr sh) (sh.copied fr.dict) (k + 1)
      (if truthy c then a else b) st wr (fun rB => P (wrapInline (fr.cont []) rB))) :
    Run H C cfg fr sh k (Tools.ifElse a b) (c :: st) wr P := by
  rw [← List.append_nil (Tools.ifElse a b), ifElse_bytes]
  intro hcap hr hk
  obtain ⟨rB, hB, hP⟩ := hbody hlen hr (by slots)
  refine ⟨_, .last 44 _ rfl hcap hr (.opIfElse ha hb rfl rfl (.sub_inline_done hB)) ?_, hP⟩
  intro f s he
  cases rB with
  | err => cases he
  | ok => simp only [wrapInline] at he; split at he <;> cases he <;> rfl

/-- `OP_EVAL` closing the tape: the tape ends as its frame sees the evaluated script end -/
theorem Run.eval_last (hev : cfg.disallowEval = false) {script : Bytes} {rL : Res} (hne : script ≠ [])
    (hc : getCount fr sh < cfg.lim.callLimit)
    (hb : TSteps (instrTable H C cfg) cfg.lim (evalFrame script (getCount fr sh) (copyDict (sh.upd st wr) fr.dict).1)
            (copyDict (sh.upd st wr) fr.dict).2 rL)
    (h : P (wrapEval cfg.evalReturn (fr.cont []) rL)) : Run H C cfg fr sh k EVAL (script :: st) wr P :=
  fun hcap hr _ => ⟨_, tape_single (fr.cont EVAL) (sh.upd (script :: st) wr) 45 [] _ rfl cfg.evalReturn rL rfl hcap hr
    (.opEval_done hev rfl hne hc hb), h⟩

/-- a run of compiler-emitted pushes: the values end up on the stack, the last one on top -/
theorem Run.pushes {vs : List Bytes} (hv : ∀ v ∈ vs, 0 < v.length ∧ v.length < 65536 ∧ v.length ≤ cfg.lim.maxItemSize)
    (h : Run H C cfg fr sh k rest (vs.reverse ++ st) wr P) :
    Run H C cfg fr sh (k + vs.length) (vs.flatMap Tools.pushB ++ rest) st wr P :=
  fun hcap hr hk => Ends.step
    (fun r => run_pushes H C cfg vs (fr.cont _) (sh.upd st wr) rest r rfl hcap hr hv (by show st.length + _ ≤ _; omega))
    (h hcap hr (by simp only [List.length_append, List.length_reverse]; omega))

/-- `dup shake256 <n> push <the hash of y> equal_verify`, the commitment to `y` by its `n`-byte hash, checked at once:
    the run goes on below an item with that hash, and ends in the error on any other -/
theorem Run.hashCheck {n : Nat} {x y : Bytes} (hn : n < 256) (hH : ∀ x, (H.shake256 x n).length = n) (hn0 : 0 < n)
    (hsz : n ≤ cfg.lim.maxItemSize) (hx : x.length ≤ cfg.lim.maxItemSize)
    (ht : H.shake256 y n = H.shake256 x n → Run H C cfg fr sh (k + 2) rest (x :: st) wr P)
    (hf : H.shake256 y n ≠ H.shake256 x n → P (.err (.user .see) (sh.upd (x :: st) wr))) :
    Run H C cfg fr sh (k + 2) (DUP ++ (SHAKE256 n ++ (Tools.pushB (H.shake256 y n) ++ (EQUAL_VERIFY ++ rest)))) (x :: st) wr P :=
  Run.hashCommit hn hH hn0 hsz hx <| Run.equalVerify (by omega) ht hf

/-- `dup swap 1 2 <key> check_sig_stack verify`, the graftroot check of a surrogate script above its signature; `<key>` is
    known by its rule (it puts `pk` on the stack): the run goes on below the script if `pk` signed its bytes, and ends in
    the error if not -/
theorem Run.graft {keyOp pk script ssig : Bytes}
    (hkey : ∀ {k rest st P}, Run H C cfg fr sh k rest (pk :: st) wr P → Run H C cfg fr sh (k + 1) (keyOp ++ rest) st wr P)
    (hpk : pk.length = 32) (hsl : ssig.length = 64) (hscr : script.length ≤ cfg.lim.maxItemSize) (h64 : 64 ≤ cfg.lim.maxItemSize)
    (ht : Sodium.verify H C pk script ssig = true → Run H C cfg fr sh (k + 3) rest (script :: st) wr P)
    (hf : Sodium.verify H C pk script ssig = false → P (.err (.user .see) (sh.upd (script :: st) wr))) :
    Run H C cfg fr sh (k + 2) (DUP ++ (SWAP 1 2 ++ (keyOp ++ (CSS ++ (opc VERIFY ++ rest))))) (script :: ssig :: st) wr P :=
  Run.dup hscr <| Run.swap12 hscr hscr (by omega) <| hkey <| Run.css hpk hsl (by omega) <|
    Run.verify (truthy_boolBytes _) ht hf

end rules
end TV
