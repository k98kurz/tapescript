import Tapeverif.Lemmas.Kernel
/-! # Invariants of the VM kernel, for an arbitrary op table

Proved once over the `Op` vocabulary by induction on fuel:
* stack limits hold on every outcome, successful or not (C07);
* no string-keyed cache entry is ever added, changed or removed (C08);
* return hygiene: no instruction is ever fetched with RETURN pending — the ghost
  assertion in `runTape` is unreachable (C01, C06);
* a successful run of a tape always consumed the whole tape. -/
namespace TV

variable (T : UInt8 → Op) (L : Limits)

def StackInv (sh : Shared) : Prop :=
  sh.stack.length ≤ L.maxItems ∧ ∀ x ∈ sh.stack, x.length ≤ L.maxItemSize

/-- string-keyed entries are the same in `sh'` as in `sh` -/
def StrFrame (sh sh' : Shared) : Prop :=
  ∀ s, lookupC (.str s) sh'.cache = lookupC (.str s) sh.cache

/-- The invariants, as a postcondition of a run started in `sh`. Return hygiene has two halves: a frame
    that comes back with RETURN pending has nothing left to fetch, and an error that TRY could catch
    leaves no RETURN pending for the EXCEPT body. -/
def Post (sh : Shared) : Res → Prop
  | .ok fr' sh' => StackInv L sh' ∧ StrFrame sh sh' ∧ (sh'.returned = true → fr'.rest = [])
  | .err e sh' => StackInv L sh' ∧ StrFrame sh sh' ∧ e ≠ .ghost ∧ (catchable e = true → sh'.returned = false)

theorem StrFrame.refl (sh : Shared) : StrFrame sh sh := fun _ => rfl
theorem StrFrame.trans {a b c : Shared} (h1 : StrFrame a b) (h2 : StrFrame b c) : StrFrame a c :=
  fun s => by rw [h2 s, h1 s]

theorem strFrame_put (sh : Shared) (key : Bytes) (v : CVal) (c : List (CKey × CVal))
    (hc : c = (.byt key, v) :: sh.cache) (sh' : Shared) (h' : sh'.cache = c) : StrFrame sh sh' := by
  intro s; rw [h', hc]; simp [lookupC]

variable {L}

theorem Post.trans {a b : Shared} {r : Res} (h1 : StrFrame a b) (h2 : Post L b r) : Post L a r := by
  cases r with
  | ok fr' sh' => exact ⟨h2.1, h1.trans h2.2.1, h2.2.2⟩
  | err e sh' => exact ⟨h2.1, h1.trans h2.2.1, h2.2.2.1, h2.2.2.2⟩

/-- `Post` looks at the cache of the start state only -/
theorem Post.of_cache {a b : Shared} {r : Res} (h : b.cache = a.cache) (h2 : Post L b r) : Post L a r :=
  h2.trans fun s => by rw [h]

theorem Post.raise {sh : Shared} (e : ErrKind) (hi : StackInv L sh) (hr : sh.returned = false) :
    Post L sh (.err (.user e) sh) :=
  ⟨hi, .refl _, by simp, fun _ => hr⟩

theorem Post.bind {a : Shared} {X : Res} {g : Frame → Shared → Res} (h : Post L a X)
    (hg : ∀ f s, StackInv L s → (s.returned = true → f.rest = []) → Post L s (g f s)) : Post L a (X.bind g) := by
  cases X with
  | err e s => exact h
  | ok f s => exact (hg f s h.1 h.2.2).trans h.2.1

theorem Prim.post {op k : Op} {fr fr' : Frame} {sh sh' : Shared} (h : Prim L op fr sh k fr' sh') (hi : StackInv L sh) :
    StackInv L sh' ∧ StrFrame sh sh' ∧ sh'.returned = sh.returned := by
  cases h with
  | pop hs =>
    refine ⟨?_, fun _ => rfl, rfl⟩
    unfold StackInv at *; rw [hs] at hi; simp at hi ⊢; exact ⟨by omega, hi.2.2⟩
  | push h1 h2 =>
    refine ⟨?_, fun _ => rfl, rfl⟩
    unfold StackInv at *; simp; exact ⟨by omega, h1, hi.2⟩
  | cachePut => exact ⟨hi, strFrame_put _ _ _ _ rfl _ rfl, rfl⟩
  | cacheGet => split <;> exact ⟨hi, fun _ => rfl, rfl⟩
  | _ => exact ⟨hi, fun _ => rfl, rfl⟩

theorem setCount_same (fr : Frame) (sh : Shared) (c : Nat) : (setCount fr sh c).2.stack = sh.stack ∧
    (setCount fr sh c).2.cache = sh.cache ∧ (setCount fr sh c).2.returned = sh.returned := by
  unfold setCount; split <;> exact ⟨rfl, rfl, rfl⟩

/-- a state with no RETURN pending may run any tape -/
theorem notRet {sh : Shared} (h : sh.returned = false) {fr : Frame} : sh.returned = true → fr.rest = [] :=
  fun h' => absurd (h.symm.trans h') (by decide)

/-- A tape may be started with RETURN pending if nothing of it is left: that is how the frame of an
    instruction that returned comes back to `runTape`. -/
theorem post_main (fuel : Nat) :
    (∀ op fr sh, StackInv L sh → sh.returned = false → Post L sh (runOp T L fuel op fr sh)) ∧
    (∀ budget lc body k fr sh, StackInv L sh → sh.returned = false →
        Post L sh (runLoop T L fuel budget lc body k fr sh)) ∧
    (∀ fr sh, StackInv L sh → (sh.returned = true → fr.rest = []) → Post L sh (runTape T L fuel fr sh)) := by
  induction fuel with
  | zero =>
    refine ⟨?_, ?_, ?_⟩ <;> intros <;> simp [runOp_zero, runLoop_zero, runTape_zero, Post, StrFrame.refl, catchable, *]
  | succ n ih =>
    obtain ⟨ihO, ihL, ihT⟩ := ih
    have after : ∀ k fr (f : Frame) sh', StackInv L sh' → (sh'.returned = true → f.rest = []) →
        Post L sh' (afterBody T L n k fr sh') := by
      intro k fr _ sh' hi _
      unfold afterBody
      split
      · exact ⟨hi, .refl _, fun _ => rfl⟩
      · next hr => exact ihO k fr sh' hi (by simpa using hr)
    have cleared : ∀ k fr (sh' : Shared), StackInv L sh' → Post L sh' (runOp T L n k fr { sh' with returned := false }) :=
      fun k fr sh' hi => .of_cache rfl (ihO k fr { sh' with returned := false } hi rfl)
    refine ⟨?_, ?_, ?_⟩
    · intro op fr sh hi hr
      cases shape L op fr sh with
      | done => exact ⟨hi, .refl _, by simp [hr]⟩
      | ret => exact ⟨hi, .refl _, fun _ => rfl⟩
      | abort => exact ⟨hi, .refl _, by simp, by simp [catchable]⟩
      | raises h => rw [runOp_raises T h]; exact .raise _ hi hr
      | prim h =>
        rw [runOp_prim T h]
        obtain ⟨hi', hs, hr'⟩ := h.post hi
        exact (ihO _ _ _ hi' (hr'.trans hr)).trans hs
      | inline =>
        rw [runOp_inline]
        exact .of_cache rfl ((ihT _ (copyDict sh fr.dict).2 hi (notRet hr)).bind (after _ fr))
      | eval hc =>
        rw [runOp_eval T hc]
        refine .of_cache rfl ((ihT _ (copyDict sh fr.dict).2 hi (notRet hr)).bind fun _ s hs _ => ?_)
        split
        · exact ⟨hs, .refl _, fun _ => rfl⟩
        · exact cleared _ _ s hs
      | call hc =>
        rw [runOp_call T hc]
        obtain ⟨h1, h2, h3⟩ := setCount_same fr sh (getCount fr sh + 1)
        have hi' : StackInv L (setCount fr sh (getCount fr sh + 1)).2 := by unfold StackInv; rw [h1]; exact hi
        refine .of_cache h2 ?_
        dsimp only
        split
        · exact .raise _ hi' (h3 ▸ hr)
        · exact .of_cache rfl ((ihT _ (setFnCount _ _ _) hi' (notRet (h3 ▸ hr))).bind fun _ s hs _ => cleared _ _ s hs)
      | @tryCatch body =>
        rw [runOp_tryCatch]
        have h1 : Post L sh _ := .of_cache rfl (ihT (inlineFrame body fr sh) (copyDict sh fr.dict).2 hi (notRet hr))
        split
        · next heq => rw [heq] at h1; exact (after _ fr _ _ h1.1 h1.2.2).trans h1.2.1
        · next ek s heq =>
          rw [heq] at h1
          refine Post.trans (h1.2.1.trans (strFrame_put s _ _ _ rfl (copyDict (caught ek s) fr.dict).2 rfl)) ?_
          exact (ihT _ (copyDict (caught ek s) fr.dict).2 h1.1 (notRet (h1.2.2.2 rfl))).bind (after _ fr)
        · next heq => rw [heq] at h1; exact h1
      | loop hs => rw [runOp_loop T hs]; exact ihL _ _ _ _ _ _ hi hr
    · intro budget lc body k fr sh hi hr
      cases loopShape budget sh with
      | empty hs => rw [runLoop_empty T hs]; exact .raise _ hi hr
      | exit hs ht => rw [runLoop_exit T hs ht]; exact ihO _ _ _ hi hr
      | spent hs ht => rw [runLoop_spent T hs ht]; exact .raise _ hi hr
      | iter hs ht =>
        rw [runLoop_iter T hs ht]
        refine (ihT _ sh hi (notRet hr)).bind fun f s hs _ => ?_
        split
        · exact ⟨hs, .refl _, fun _ => rfl⟩
        · next hr' => exact ihL _ f.count body k fr s hs (by simpa using hr')
    · intro fr sh hi hd
      cases tapeShape fr sh with
      | nil h => rw [runTape_nil T h]; exact ⟨hi, .refl _, fun _ => h⟩
      | guard h hc => rw [runTape_guard T h hc]; exact ⟨hi, .refl _, by simp, by simp [catchable]⟩
      | ghost h _ hr => rw [hd hr] at h; cases h
      | fetch h hc hr => rw [runTape_cons T h hc hr]; exact (ihO _ _ sh hi hr).bind ihT

variable (L)

theorem runTape_ok_rest (fuel : Nat) : ∀ fr sh fr' sh',
    runTape T L fuel fr sh = .ok fr' sh' → fr'.rest = [] := by
  induction fuel with
  | zero => intro fr sh fr' sh' h; cases h
  | succ n ih =>
    intro fr sh fr' sh' h
    cases tapeShape fr sh with
    | nil hn => rw [runTape_nil T hn] at h; cases h; exact hn
    | guard hn hc => rw [runTape_guard T hn hc] at h; cases h
    | ghost hn hc hr => rw [runTape_ghost T hn hc hr] at h; cases h
    | fetch hn hc hr =>
      rw [runTape_cons T hn hc hr] at h
      generalize runOp T L n _ _ sh = X at h
      cases X with
      | err e s => cases h
      | ok f s => exact ih _ _ _ _ h

end TV
