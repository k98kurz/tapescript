import Tapeverif.Model.Instr
import Tapeverif.Lemmas.Kernel
import Tapeverif.Lemmas.BndAttr
/-!
# The substring guard is dead code for the real instruction table

`runTape` refuses to run a frame whose tape is not shorter than its `cap` (`Err.guard`). The
guard keeps the kernel terminating for an *arbitrary* op table (`Lemmas/Term.lean`); the Python
interpreter has no such check. Here: for the 92 real instructions (and the NOP codes) the guard is
never reached, because the only instructions that start a block body (IF, IF_ELSE, TRY_EXCEPT, LOOP)
take the body from the bytes they have just read from their own tape.

`Bounded B0 op`: every block body `op` can start has length `≤ B0`, given that every successful
`.read n` has `n ≤ B0` (`B0` = the length of the tape that remains after the opcode byte).
An instruction is a function of its continuation, and what is proved of each is that it hands
`Bounded B0` on to the continuation: the four block instructions by `bounded_readBody`, every
combinator by a lemma of its own, and the rest by walking the instruction's body (`bnd`).
-/
namespace TV
open Instr

def Bounded (B0 : Nat) : Op → Prop
  | .done => True
  | .fail _ => True
  | .read n k => n ≤ B0 → ∀ b : Bytes, b.length = n → Bounded B0 (k b)
  | .pop k => ∀ x, Bounded B0 (k x)
  | .peekTop k => ∀ x, Bounded B0 (k x)
  | .depth k => ∀ n, Bounded B0 (k n)
  | .push _ k => Bounded B0 k
  | .cacheGet _ k => ∀ v, Bounded B0 (k v)
  | .cachePut _ _ k => Bounded B0 k
  | .rand _ k => ∀ b, Bounded B0 (k b)
  | .log _ k => Bounded B0 k
  | .guardCount k => Bounded B0 k
  | .define _ _ k => Bounded B0 k
  | .call _ k => Bounded B0 k
  | .sub .inline body k => body.length ≤ B0 ∧ Bounded B0 k
  | .sub (.eval _) _ k => Bounded B0 k
  | .tryCatch b e k => b.length ≤ B0 ∧ e.length ≤ B0 ∧ Bounded B0 k
  | .loop body k => body.length ≤ B0 ∧ Bounded B0 k
  | .ret => True
  | .abort => False       -- no real instruction contains the uncatchable failure either

variable {B0 : Nat}

/- What the walk may unfold: `Bounded` on a primitive action, the instructions, and the helpers that are
   primitive actions around a continuation. A helper that is a case distinction or a recursion, and an
   instruction that other instructions are made of, has a lemma instead, so that its walk is done once. -/
attribute [bnd] Bounded id_eq implies_true
  readU1 readU2 pushInt pushBool sigExt getMessageCore readCacheCore readCacheSizeCore popF32V
  opFalse opTrue opPush0 opPush1 opPush2 opGetMessage opPop0 opPop1 opSize opWriteCache opReadCache
  opReadCacheSize opReadCacheStack opReadCacheStackSize opAddInts opSubInts opMultInts opDivInt opDivInts
  opModInt opModInts opAddFloats opSubFloats opDivFloat opDivFloats opModFloat opModFloats opAddPoints
  opCopy opDup opSha256 opShake256 opEqual opEqualVerify opCheckSigVerify opCheckTimestampVerify
  opCheckEpochVerify opDef opCall opNot opRandom opSetFlag opUnsetFlag opDepth opSwap opSwap2 opReverse
  opConcat opSplit opConcatStr opSplitStr opCheckTransfer opMerkleval opLess opLeq opGetValue opFloatLess
  opFloatLeq opIntToFloat opFloatToInt opCheckMultisigVerify opSign opSignStack opCheckSigStack
  opDeriveScalar opClampScalar opAddScalars opSubScalars opDerivePoint opSubPoints opMakeAdapterPublic
  opMakeAdapterPrivate opCheckAdapterSig opDecryptAdapterSig opInvoke bitop opCheckTemplateVerify
  opTaproot opNop

/-- Proves `Bounded B0 op` for an `op` built around continuations that are `Bounded B0` by hypothesis.
    `simp` unfolds, strips the primitive actions, and rewrites a combinator away by its lemma, whose
    premise about the continuation it gives back to `bnd`; where it stops there is a `match` on
    run-time data, which `split` takes. (`apply id`: the proof found for a premise has the premise as
    its type only up to unfolding `Bounded`, which the calling `simp` does not do.) -/
syntax "bnd" : tactic
macro_rules
  | `(tactic| bnd) =>
    `(tactic| (intros; first | simp (disch := (apply id; bnd)) only [bnd, *] <;> bnd | split <;> bnd))

@[bnd] theorem bounded_ite (c : Prop) [Decidable c] (a b : Op) (ha : Bounded B0 a) (hb : Bounded B0 b) :
    Bounded B0 (if c then a else b) := by
  split <;> assumption

@[bnd] theorem bounded_popN : ∀ (n : Nat) (k : List Bytes → Op), (∀ l, Bounded B0 (k l)) → Bounded B0 (popN n k)
  | 0, _, h => h []
  | n+1, _, h => fun x => bounded_popN n _ fun r => h (x :: r)

@[bnd] theorem bounded_pushAll : ∀ (l : List Bytes) (k : Op), Bounded B0 k → Bounded B0 (pushAll l k)
  | [], _, h => h
  | _ :: r, k, h => bounded_pushAll r k h

@[bnd] theorem bounded_runSigExts : ∀ (l : List SigExt) (k : Op), Bounded B0 k → Bounded B0 (runSigExts l k)
  | [], _, h => h
  | .log _ :: r, k, h => bounded_runSigExts r k h
  | .raise :: _, _, _ => trivial

@[bnd] theorem bounded_getMessageFrom (flag : Nat) : ∀ (fuel i : Nat) (acc : Bytes) (k : Bytes → Op),
    (∀ m, Bounded B0 (k m)) → Bounded B0 (getMessageFrom flag fuel i acc k)
  | 0, _, acc, _, h => h acc
  | fuel+1, i, _, k, h => by
    have ih := fun acc => bounded_getMessageFrom flag fuel (i+1) acc k h
    unfold getMessageFrom; bnd

@[bnd] theorem bounded_pushAtoms : ∀ (l : List Atom) (k : Op), Bounded B0 k → Bounded B0 (pushAtoms l k)
  | [], _, h => h
  | .bytes _ :: r, k, h => bounded_pushAtoms r k h
  | .bytearray _ :: _, _, _ | .str _ :: _, _, _ | .int _ :: _, _, _ | .float _ :: _, _, _ | .other :: _, _, _ =>
    trivial

@[bnd] theorem bounded_popInt (k : Int → Op) (h : ∀ z, Bounded B0 (k z)) : Bounded B0 (popInt k) := by
  unfold popInt; bnd

@[bnd] theorem bounded_foldInts (f : Int → Int → Int) : ∀ (n : Nat) (acc : Int) (k : Int → Op),
    (∀ z, Bounded B0 (k z)) → Bounded B0 (foldInts f n acc k)
  | 0, acc, _, h => h acc
  | n+1, _, k, h => bounded_popInt _ fun _ => bounded_foldInts f n _ k h

@[bnd] theorem bounded_popF32T (k : Float → Op) (h : ∀ z, Bounded B0 (k z)) : Bounded B0 (popF32T k) := by
  unfold popF32T; bnd

@[bnd] theorem bounded_foldFloats (f : Float → Float → Float) : ∀ (n : Nat) (acc : Float) (k : Float → Op),
    (∀ z, Bounded B0 (k z)) → Bounded B0 (foldFloats f n acc k)
  | 0, acc, _, h => h acc
  | n+1, _, k, h => bounded_popF32T _ fun _ => bounded_foldFloats f n _ k h

@[bnd] theorem bounded_liftR {α : Type} (r : R α) (k : α → Op) (h : ∀ a, Bounded B0 (k a)) :
    Bounded B0 (liftR r k) := by
  unfold liftR; bnd

@[bnd] theorem bounded_foldR (f : Bytes → Bytes → R Bytes) : ∀ (n : Nat) (acc : Bytes) (k : Bytes → Op),
    (∀ z, Bounded B0 (k z)) → Bounded B0 (foldR f n acc k)
  | 0, acc, _, h => h acc
  | n+1, _, k, h => fun _ => bounded_liftR _ _ fun a => bounded_foldR f n a k h

@[bnd] theorem bounded_cachePutIf (c : Bool) (key : String) (v : Bytes) (k : Op) (h : Bounded B0 k) :
    Bounded B0 (cachePutIf c key v k) := by
  unfold cachePutIf; bnd

@[bnd] theorem bounded_divOrFail (f : Int → Int → Int) (a b : Int) (k : Op) (h : Bounded B0 k) :
    Bounded B0 (divOrFail f a b k) := by
  unfold divOrFail; bnd

@[bnd] theorem bounded_pushPacked (x : Float) (k : Op) (h : Bounded B0 k) : Bounded B0 (pushPacked x k) := by
  unfold pushPacked; bnd

@[bnd] theorem bounded_finishFloat (x : Float) (k : Op) (h : Bounded B0 k) : Bounded B0 (finishFloat x k) := by
  unfold finishFloat; bnd

@[bnd] theorem bounded_divFloat (a b : Float) (k : Op) (h : Bounded B0 k) : Bounded B0 (divFloat a b k) := by
  unfold divFloat; bnd

@[bnd] theorem bounded_modFloat (a b : Float) (k : Op) (h : Bounded B0 k) : Bounded B0 (modFloat a b k) := by
  unfold modFloat; bnd

@[bnd] theorem bounded_pushValues : ∀ (l : List Atom) (k : Op), Bounded B0 k → Bounded B0 (pushValues l k)
  | [], _, h => h
  | .bytes _ :: r, k, h | .str _ :: r, k, h | .int _ :: r, k, h | .other :: r, k, h => bounded_pushValues r k h
  | .bytearray _ :: _, _, _ => trivial
  | .float _ :: r, k, h => bounded_pushPacked _ _ (bounded_pushValues r k h)

@[bnd] theorem bounded_swapCore (i j : Nat) (k : Op) (h : Bounded B0 k) : Bounded B0 (swapCore i j k) := by
  unfold swapCore; bnd

@[bnd] theorem bounded_opVerify (k : Op) (h : Bounded B0 k) : Bounded B0 (opVerify k) := by
  unfold opVerify; bnd

section withParams
variable (H : Hashes) (C : Curve) (cfg : Cfg)

@[bnd] theorem bounded_opEval (k : Op) (h : Bounded B0 k) : Bounded B0 (opEval cfg k) := by
  unfold opEval; bnd

@[bnd] theorem bounded_checkSigCore (allowed : Nat) (k : Op) (h : Bounded B0 k) :
    Bounded B0 (checkSigCore H C allowed k) := by
  unfold checkSigCore; bnd

@[bnd] theorem bounded_msTryKeys (allowed : Nat) (sig : Bytes) : ∀ (keys : List Bytes) (k : Option Bytes → Op),
    (∀ o, Bounded B0 (k o)) → Bounded B0 (msTryKeys H C allowed sig keys k)
  | [], _, h => h none
  | _ :: r, k, h => by
    have ih := bounded_msTryKeys allowed sig r k h
    unfold msTryKeys; bnd

@[bnd] theorem bounded_msLoop (allowed : Nat) : ∀ (sigs keys confirmed : List Bytes) (k : List Bytes → Op),
    (∀ l, Bounded B0 (k l)) → Bounded B0 (msLoop H C allowed sigs keys confirmed k)
  | [], _, confirmed, _, h => h confirmed
  | _ :: sigs, _, _, k, h => by
    have ih := fun keys confirmed => bounded_msLoop allowed sigs keys confirmed k h
    unfold msLoop; bnd

@[bnd] theorem bounded_ctLoop (flag : Nat) : ∀ (fuel i : Nat) (ok : Bool) (k : Bool → Op),
    (∀ b, Bounded B0 (k b)) → Bounded B0 (ctLoop cfg flag fuel i ok k)
  | 0, _, ok, _, h => h ok
  | fuel+1, i, _, k, h => by
    have ih := fun ok => bounded_ctLoop flag fuel (i+1) ok k h
    unfold ctLoop; bnd

@[bnd] theorem bounded_opCheckSig (k : Op) (h : Bounded B0 k) : Bounded B0 (opCheckSig H C cfg k) := by
  unfold opCheckSig; bnd

@[bnd] theorem bounded_opCheckMultisig (k : Op) (h : Bounded B0 k) : Bounded B0 (opCheckMultisig H C cfg k) := by
  unfold opCheckMultisig; bnd

@[bnd] theorem bounded_opCheckTimestamp (k : Op) (h : Bounded B0 k) : Bounded B0 (opCheckTimestamp cfg k) := by
  unfold opCheckTimestamp; bnd

@[bnd] theorem bounded_opCheckEpoch (k : Op) (h : Bounded B0 k) : Bounded B0 (opCheckEpoch cfg k) := by
  unfold opCheckEpoch; bnd

@[bnd] theorem bounded_opCheckTemplate (k : Op) (h : Bounded B0 k) : Bounded B0 (opCheckTemplate cfg k) := by
  unfold opCheckTemplate; bnd

theorem bounded_readBody (f : Bytes → Op) (h : ∀ body, body.length ≤ B0 → Bounded B0 (f body)) :
    Bounded B0 (readU2 fun n => .read n f) :=
  fun _ _ _ hn body hb => h body (hb ▸ hn)

@[bnd] theorem bounded_opIf (k : Op) (hk : Bounded B0 k) : Bounded B0 (opIf k) :=
  bounded_readBody _ fun _ hb _ => bounded_ite _ _ _ ⟨hb, hk⟩ hk

@[bnd] theorem bounded_opIfElse (k : Op) (hk : Bounded B0 k) : Bounded B0 (opIfElse k) :=
  bounded_readBody _ fun _ h1 => bounded_readBody _ fun _ h2 _ => ⟨by split <;> assumption, hk⟩

@[bnd] theorem bounded_opTryExcept (k : Op) (hk : Bounded B0 k) : Bounded B0 (opTryExcept k) :=
  bounded_readBody _ fun _ h1 => bounded_readBody _ fun _ h2 => ⟨h1, h2, hk⟩

@[bnd] theorem bounded_opLoop (k : Op) (hk : Bounded B0 k) : Bounded B0 (opLoop k) :=
  bounded_readBody _ fun _ hb => ⟨hb, hk⟩

theorem bounded_instr (c : Nat) (k : Op) (hk : Bounded B0 k) : Bounded B0 (instr H C cfg c k) := by
  fun_cases instr H C cfg c k <;> bnd

end withParams

theorem Prim.bounded {L : Limits} {op k : Op} {fr fr' : Frame} {sh sh' : Shared} (h : Prim L op fr sh k fr' sh')
    (hb : Bounded B0 op) (h1 : fr.rest.length ≤ B0) : Bounded B0 k := by
  cases h with
  | read hm => exact hb (Nat.le_trans hm h1) _ (by simp [List.length_take]; omega)
  | pop | peekTop | depth | cacheGet | rand => exact hb _
  | push | cachePut | log | guardCount | define => exact hb

variable (T : UInt8 → Op) (L : Limits)

/-- Outcome of a run that never hit the guard: a run that succeeds returns its frame moved forward, one that
    fails fails with neither `guard` nor `abort`. -/
def NG (fr : Frame) : Res → Prop
  | .ok fr' _ => FrameLe fr fr'
  | .err e _ => e ≠ .guard ∧ e ≠ .abort

theorem NG.mono {fr fr1 : Frame} {r : Res} (hf : FrameLe fr fr1) (h : NG fr1 r) : NG fr r := by
  cases r with
  | ok f s => exact hf.trans h
  | err e s => exact h

theorem NG.bind {fr frB : Frame} {X : Res} {g : Frame → Shared → Res} (hX : NG frB X)
    (hg : ∀ f s, FrameLe frB f → NG fr (g f s)) : NG fr (X.bind g) := by
  cases X with
  | err e s => exact hX
  | ok f s => exact hg f s hX

theorem noguard_main (hT : ∀ c B0, Bounded B0 (T c)) (fuel : Nat) :
    (∀ op fr sh B0, Bounded B0 op → fr.rest.length ≤ B0 → B0 < fr.len0 → fr.len0 < fr.cap → NG fr (runOp T L fuel op fr sh)) ∧
    (∀ budget lc body k fr sh B0, body.length ≤ B0 → Bounded B0 k → fr.rest.length ≤ B0 → B0 < fr.len0 → fr.len0 < fr.cap →
        NG fr (runLoop T L fuel budget lc body k fr sh)) ∧
    (∀ fr sh, fr.rest.length ≤ fr.len0 → fr.len0 < fr.cap → NG fr (runTape T L fuel fr sh)) := by
  induction fuel with
  | zero =>
    refine ⟨?_, ?_, ?_⟩ <;> intros <;> simp [runOp_zero, runLoop_zero, runTape_zero, NG]
  | succ n ih =>
    obtain ⟨ihO, ihL, ihT⟩ := ih
    have endf : ∀ fr sh, NG fr (.ok (endFrame fr) sh) := fun fr sh => FrameLe.endFrame fr
    have uerr : ∀ (fr : Frame) (e : ErrKind) sh, NG fr (.err (.user e) sh) := fun fr e sh => by simp [NG]
    have after : ∀ (fr : Frame) (s : Shared) (k : Op) (B0 : Nat), Bounded B0 k → fr.rest.length ≤ B0 → B0 < fr.len0 →
        fr.len0 < fr.cap → NG fr (afterBody T L n k fr s) := by
      intro fr s k B0 hb h1 h2 h3
      unfold afterBody
      split
      · exact endf fr s
      · exact ihO k fr s B0 hb h1 h2 h3
    -- a frame that starts a tape shorter than its `cap`
    have fresh : ∀ (f : Frame) (s : Shared), f.rest.length = f.len0 → f.len0 < f.cap → NG f (runTape T L n f s) :=
      fun f s h1 h2 => ihT f s (Nat.le_of_eq h1) h2
    refine ⟨?_, ?_, ?_⟩
    · intro op fr sh B0 hb h1 h2 h3
      cases shape L op fr sh with
      | done => exact FrameLe.refl fr
      | ret => exact endf fr _
      | abort => exact absurd hb (by simp [Bounded])
      | raises h => rw [runOp_raises T h]; exact uerr fr _ sh
      | prim h =>
        rw [runOp_prim T h]
        have hf := h.frameLe
        exact .mono hf (ihO _ _ _ B0 (h.bounded hb h1) (Nat.le_trans hf.length_le h1) (hf.len0 ▸ h2) (hf.len0 ▸ hf.cap ▸ h3))
      | inline =>
        rw [runOp_inline]
        exact (fresh (inlineFrame _ fr sh) _ rfl (Nat.lt_of_le_of_lt hb.1 h2)).bind fun _ s _ => after fr s _ B0 hb.2 h1 h2 h3
      | eval hc =>
        rw [runOp_eval T hc]
        refine (fresh (evalFrame _ _ _) _ rfl (Nat.lt_succ_self _)).bind fun _ s _ => ?_
        split
        · exact endf fr _
        · exact ihO _ fr _ B0 hb h1 h2 h3
      | call hc =>
        rw [runOp_call T hc]
        have hf := setCount_frameLe fr sh
        dsimp only
        split
        · exact uerr fr _ _
        · refine (fresh (callFrame _ _ _) _ rfl (Nat.lt_succ_self _)).bind fun _ s _ => ?_
          exact .mono hf (ihO _ _ _ B0 hb (Nat.le_trans hf.length_le h1) (hf.len0 ▸ h2) (hf.len0 ▸ hf.cap ▸ h3))
      | @tryCatch body exc =>
        rw [runOp_tryCatch]
        have hB := fresh (inlineFrame body fr sh) (copyDict sh fr.dict).2 rfl (Nat.lt_of_le_of_lt hb.1 h2)
        split
        · exact after fr _ _ B0 hb.2.2 h1 h2 h3
        · exact (fresh (inlineFrame exc fr _) _ rfl (Nat.lt_of_le_of_lt hb.2.1 h2)).bind
            fun _ s _ => after fr s _ B0 hb.2.2 h1 h2 h3
        · next heq => rw [heq] at hB; exact hB
      | loop hs => rw [runOp_loop T hs]; exact ihL _ _ _ _ fr sh B0 hb.1 hb.2 h1 h2 h3
    · intro budget lc body k fr sh B0 hbody hb h1 h2 h3
      cases loopShape budget sh with
      | empty hs => rw [runLoop_empty T hs]; exact uerr fr _ sh
      | exit hs ht => rw [runLoop_exit T hs ht]; exact ihO k fr sh B0 hb h1 h2 h3
      | spent hs ht => rw [runLoop_spent T hs ht]; exact uerr fr _ sh
      | iter hs ht =>
        rw [runLoop_iter T hs ht]
        refine (fresh (loopFrame body lc fr) sh rfl (Nat.lt_of_le_of_lt hbody h2)).bind fun f s _ => ?_
        split
        · exact endf fr _
        · exact ihL _ f.count body k fr s B0 hbody hb h1 h2 h3
    · intro fr sh h1 h3
      cases tapeShape fr sh with
      | nil h => rw [runTape_nil T h]; exact FrameLe.refl fr
      | guard h hc => exact absurd h3 hc
      | ghost h hc hr => rw [runTape_ghost T h hc hr]; simp [NG]
      | @fetch c rest h hc hr =>
        rw [runTape_cons T h hc hr]
        have hlen : rest.length < fr.len0 := by rw [h] at h1; exact h1
        refine (ihO (T c) { fr with rest := rest } sh rest.length (hT c rest.length) (Nat.le_refl _) hlen h3).bind
          fun f s hf => ?_
        exact .mono ((FrameLe.rest (by simp [h])).trans hf)
          (ihT f s (hf.len0 ▸ Nat.le_trans hf.length_le (Nat.le_of_lt hlen)) (hf.len0 ▸ hf.cap ▸ h3))

end TV
