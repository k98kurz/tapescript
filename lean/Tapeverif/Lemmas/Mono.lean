import Tapeverif.Lemmas.Kernel
/-! Fuel monotonicity: a run that did not stop for lack of fuel gives the same outcome with any
    larger fuel. Hence the outcome of a run, `Settles f r`: the run `f`, a function of the fuel, gives `r`
    from some fuel on. The big-step relations of `Lemmas/BigStep.lean` say the same (`Steps.settles`, `Steps.of_settles`)
    and are composed through it; termination (`Lemmas/Term.lean`) is stated over it. -/
namespace TV

def Res.isFuel : Res → Bool
  | .err .fuel _ => true
  | _ => false

def Res.le (r r' : Res) : Prop := r.isFuel = true ∨ r = r'

theorem Res.le_refl (r : Res) : Res.le r r := Or.inr rfl

theorem Res.isFuel_eq : ∀ {r : Res}, r.isFuel = true → ∃ s, r = .err .fuel s
  | .err .fuel s, _ => ⟨s, rfl⟩

variable (T : UInt8 → Op) (L : Limits)

theorem Res.le_bind {X X' : Res} {g g' : Frame → Shared → Res} (hX : Res.le X X')
    (hg : ∀ f s, Res.le (g f s) (g' f s)) : Res.le (X.bind g) (X'.bind g') := by
  rcases hX with hf | rfl
  · obtain ⟨s, rfl⟩ := Res.isFuel_eq hf; exact Or.inl rfl
  · cases X with
    | err e s => exact Or.inr rfl
    | ok f s => exact hg f s

theorem mono (n : Nat) :
    (∀ op fr sh, Res.le (runOp T L n op fr sh) (runOp T L (n+1) op fr sh)) ∧
    (∀ budget lc body k fr sh, Res.le (runLoop T L n budget lc body k fr sh)
        (runLoop T L (n+1) budget lc body k fr sh)) ∧
    (∀ fr sh, Res.le (runTape T L n fr sh) (runTape T L (n+1) fr sh)) := by
  induction n with
  | zero =>
    refine ⟨?_, ?_, ?_⟩ <;> intros <;> exact Or.inl (by simp [runOp_zero, runLoop_zero, runTape_zero, Res.isFuel])
  | succ n ih =>
    obtain ⟨ihO, ihL, ihT⟩ := ih
    have after : ∀ k fr s, Res.le (afterBody T L n k fr s) (afterBody T L (n+1) k fr s) := by
      intro k fr s
      unfold afterBody
      split
      · exact Res.le_refl _
      · exact ihO _ _ _
    refine ⟨?_, ?_, ?_⟩
    · intro op fr sh
      cases shape L op fr sh with
      | done => exact Res.le_refl _
      | ret => exact Res.le_refl _
      | abort => exact Res.le_refl _
      | raises h => rw [runOp_raises T h, runOp_raises T h]; exact Res.le_refl _
      | prim h => rw [runOp_prim T h, runOp_prim T h]; exact ihO _ _ _
      | inline => rw [runOp_inline, runOp_inline]; exact Res.le_bind (ihT _ _) fun _ s => after _ _ s
      | eval hc =>
        rw [runOp_eval T hc, runOp_eval T hc]
        refine Res.le_bind (ihT _ _) fun _ s => ?_
        split
        · exact Res.le_refl _
        · exact ihO _ _ _
      | call hc =>
        rw [runOp_call T hc, runOp_call T hc]
        dsimp only
        split
        · exact Res.le_refl _
        · exact Res.le_bind (ihT _ _) fun _ s => ihO _ _ _
      | @tryCatch body =>
        rw [runOp_tryCatch, runOp_tryCatch]
        rcases ihT (inlineFrame body fr sh) (copyDict sh fr.dict).2 with hf | heq
        · obtain ⟨s, hs⟩ := Res.isFuel_eq hf; rw [hs]; exact Or.inl rfl
        · rw [← heq]
          split
          · exact after _ _ _
          · exact Res.le_bind (ihT _ _) fun _ s => after _ _ s
          · exact Res.le_refl _
      | loop hs => rw [runOp_loop T hs, runOp_loop T hs]; exact ihL _ _ _ _ _ _
    · intro budget lc body k fr sh
      cases loopShape budget sh with
      | empty hs => rw [runLoop_empty T hs, runLoop_empty T hs]; exact Res.le_refl _
      | exit hs ht => rw [runLoop_exit T hs ht, runLoop_exit T hs ht]; exact ihO _ _ _
      | spent hs ht => rw [runLoop_spent T hs ht, runLoop_spent T hs ht]; exact Res.le_refl _
      | iter hs ht =>
        rw [runLoop_iter T hs ht, runLoop_iter T hs ht]
        refine Res.le_bind (ihT _ _) fun f s => ?_
        split
        · exact Res.le_refl _
        · exact ihL _ _ _ _ _ _
    · intro fr sh
      cases tapeShape fr sh with
      | nil h => rw [runTape_nil T h, runTape_nil T h]; exact Res.le_refl _
      | guard h hc => rw [runTape_guard T h hc, runTape_guard T h hc]; exact Res.le_refl _
      | ghost h hc hr => rw [runTape_ghost T h hc hr, runTape_ghost T h hc hr]; exact Res.le_refl _
      | fetch h hc hr =>
        rw [runTape_cons T h hc hr, runTape_cons T h hc hr]
        exact Res.le_bind (ihO _ _ _) fun f s => ihT _ _

/-- a fuel-indexed outcome that is monotone step by step no longer changes once it is not out-of-fuel -/
theorem Res.stable {f : Nat → Res} (hf : ∀ n, Res.le (f n) (f (n + 1))) {n m : Nat} (h : n ≤ m) {r : Res}
    (hr : f n = r) (hnf : r.isFuel = false) : f m = r := by
  induction h with
  | refl => exact hr
  | step _ ih =>
    rcases hf _ with h | h
    · rw [ih, hnf] at h; cases h
    · rw [← h, ih]

/-- a run that did not run out of fuel is unchanged by more fuel -/
theorem runOp_mono {n m : Nat} (h : n ≤ m) {op : Op} {fr : Frame} {sh : Shared} {r : Res}
    (hr : runOp T L n op fr sh = r) (hnf : r.isFuel = false) : runOp T L m op fr sh = r :=
  Res.stable (fun k => (mono T L k).1 op fr sh) h hr hnf

theorem runTape_mono {n m : Nat} (h : n ≤ m) {fr : Frame} {sh : Shared} {r : Res}
    (hr : runTape T L n fr sh = r) (hnf : r.isFuel = false) : runTape T L m fr sh = r :=
  Res.stable (fun k => (mono T L k).2.2 fr sh) h hr hnf

/-- `f n = r` for every sufficiently large fuel `n`, and `r` is not the out-of-fuel marker -/
def Settles (f : Nat → Res) (r : Res) : Prop := r.isFuel = false ∧ ∃ n0, ∀ n, n0 ≤ n → f n = r

theorem Settles.const {r : Res} (h : r.isFuel = false) : Settles (fun _ => r) r := ⟨h, 0, fun _ _ => rfl⟩

theorem Settles.shift {f g : Nat → Res} {r : Res} (h : ∀ n, f (n + 1) = g n) (hg : Settles g r) : Settles f r := by
  obtain ⟨hf, n0, hn⟩ := hg
  refine ⟨hf, n0 + 1, fun n hle => ?_⟩
  obtain ⟨m, rfl⟩ : ∃ m, n = m + 1 := ⟨n - 1, by omega⟩
  rw [h, hn m (by omega)]

theorem Settles.congr {f g : Nat → Res} {r : Res} {n1 : Nat} (h : ∀ n, n1 ≤ n → f n = g n) (hg : Settles g r) :
    Settles f r := by
  obtain ⟨hf, n2, h2⟩ := hg
  exact ⟨hf, max n1 n2, fun n hle => by rw [h n (by omega), h2 n (by omega)]⟩

theorem Settles.unique {f : Nat → Res} {r r' : Res} (h : Settles f r) (h' : Settles f r') : r = r' := by
  obtain ⟨_, n, hn⟩ := h
  obtain ⟨_, m, hm⟩ := h'
  rw [← hn (max n m) (Nat.le_max_left _ _), hm (max n m) (Nat.le_max_right _ _)]

/-- sequencing: once the first run has settled, the whole goes on from its outcome -/
theorem Settles.bind {X : Nat → Res} {g : Nat → Frame → Shared → Res} {rX r : Res} (hX : Settles X rX)
    (hg : Settles (fun n => rX.bind (g n)) r) : Settles (fun n => (X n).bind (g n)) r := by
  obtain ⟨n0, hn0⟩ := hX.2
  exact .congr (n1 := n0) (fun n hn => by rw [hn0 n hn]) hg

end TV
