import Tapeverif.Lemmas.InstrSteps
/-! The op terms of `OP_CHECK_MULTISIG` refine the pure specification `SigPure.multisig` (big-step). -/
namespace TV
open Instr

variable (H : Hashes) (C : Curve)

/-- the inner loop of `OP_CHECK_MULTISIG` computes `SigPure.findKey` and leaves the stack as it was -/
theorem msTryKeys_steps {T : UInt8 → Op} {L : Limits} (allowed : Nat) (sig : Bytes) (fr : Frame)
    (keys : List Bytes) (k : Option Bytes → Op) (sh : Shared) (r : Res)
    (hsig : sig.length ≤ L.maxItemSize) (hkeys : ∀ vk ∈ keys, vk.length ≤ L.maxItemSize) (h1 : 1 ≤ L.maxItemSize)
    (hroom : sh.stack.length + 2 ≤ L.maxItems)
    (h : match SigPure.findKey H C L.maxItemSize sh.cache allowed sig keys with
     | .ok hit => Steps T L (k hit) fr sh r
     | .error e => r = .err (.user e) sh) :
    Steps T L (msTryKeys H C allowed sig keys k) fr sh r := by
  induction keys with
  | nil => exact h
  | cons vk rest ih =>
    rw [List.forall_mem_cons] at hkeys
    rw [SigPure.findKey] at h
    unfold msTryKeys
    refine .push hsig (Nat.lt_of_succ_lt hroom) (.push hkeys.1 (Nat.lt_of_succ_le hroom)
      (checkSigCore_steps H C allowed _ fr _ vk sig sh.stack r rfl h1 (by omega) ?_))
    cases hc : SigPure.checkSig H C L.maxItemSize sh.cache allowed sig vk with
    | error e => rw [hc] at h; exact h
    | ok b =>
      rw [hc] at h
      refine .pop (boolBytes b) sh.stack rfl ?_
      rw [truthy_boolBytes]
      cases b
      · exact ih hkeys.2 h
      · exact h

theorem eraseFirst_eq_erase (x : Bytes) (l : List Bytes) :
    eraseFirst x l = @List.erase Bytes instBEqOfDecidableEq l x := by
  induction l with
  | nil => rfl
  | cons y r ih => simp only [eraseFirst, List.erase_cons, ih, beq_iff_eq, @eq_comm _ y x]

/-- the outer loop of `OP_CHECK_MULTISIG` computes `SigPure.multisigLoop` -/
theorem msLoop_steps {T : UInt8 → Op} {L : Limits} (allowed : Nat) (fr : Frame)
    (sigs keys confirmed : List Bytes) (k : List Bytes → Op) (sh : Shared) (r : Res)
    (hsigs : ∀ s ∈ sigs, s.length ≤ L.maxItemSize) (hkeys : ∀ vk ∈ keys, vk.length ≤ L.maxItemSize)
    (h1 : 1 ≤ L.maxItemSize) (hroom : sh.stack.length + 2 ≤ L.maxItems)
    (h : match SigPure.multisigLoop H C L.maxItemSize sh.cache allowed sigs keys confirmed with
     | .ok c => Steps T L (k c) fr sh r
     | .error e => r = .err (.user e) sh) :
    Steps T L (msLoop H C allowed sigs keys confirmed k) fr sh r := by
  induction sigs generalizing keys confirmed with
  | nil => exact h
  | cons sig rest ih =>
    rw [List.forall_mem_cons] at hsigs
    rw [SigPure.multisigLoop] at h
    unfold msLoop
    refine msTryKeys_steps H C allowed sig fr keys _ sh r hsigs.1 hkeys h1 hroom ?_
    cases hf : SigPure.findKey H C L.maxItemSize sh.cache allowed sig keys with
    | error e => rw [hf] at h; exact h
    | ok hit =>
      rw [hf] at h
      cases hit with
      | none => exact ih _ _ hsigs.2 hkeys h
      | some vk =>
        simp only [eraseFirst_eq_erase, List.contains_iff_mem]
        exact ih _ _ hsigs.2 (fun v hv => hkeys v (@List.mem_of_mem_erase Bytes instBEqOfDecidableEq _ _ _ hv)) h

end TV
