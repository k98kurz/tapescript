import Tapeverif.Lemmas.VMRun
import Tapeverif.Lemmas.RunRel
import Tapeverif.Props.C03
/-! # C13 — signature and commitment lock builders

The locks are executed symbolically on the VM model, for **every** key, allowed-flags byte,
witness-left stack, cache and limits (no signature-extension plugin). The single-signature lock in
both layouts and the graftroot key path end with exactly the C02 specification `SigPure.checkSig`,
the m-of-n multisignature lock with exactly the C03 specification `SigPure.multisig`; the
script-hash lock ends as the supplied script does if it has the committed hash, and the script-hash
lock and the graftroot surrogate path end in an error before `OP_EVAL` otherwise. The accepting
surrogate path is in `Props/C13Locks.lean`, the graftap lock in `Props/C13Graftap.lean`. -/
namespace TV.C13

open Instr Tools

variable (H : Hashes) (C : Curve)

/-- the lock's bytes: `PUSH1 32 <pk> CHECK_SIG <flags>` -/
theorem singleSigLock_bytes (pk : Bytes) (flags : Nat) (hpk : pk.length = 32) :
    singleSigLock pk flags = 3 :: UInt8.ofNat pk.length :: (pk ++ [35, UInt8.ofNat flags]) := by
  unfold singleSigLock pushB pushBytes CHECK_SIG opc
  simp [hpk, natToBytesBE]

def Res.errOf : Res → Option Err
  | .ok _ _ => none
  | .err e _ => some e

/-- **C13 single-sig, exact acceptance condition.** Running the lock (no signature-extension
    plugin installed) from any state whose stack top is `sig`: the run ends with the C02 verdict
    of `sig` under `pk` on top of the remaining stack, or with exactly the C02 error. Hence:
    the sibling witness unlocks (C02.4), and another key / other covered fields / a
    non-permitted flag are rejected exactly when `SigPure.checkSig` says so. -/
theorem singleSigLock_run (cfg : Cfg) (hno : cfg.sigExts = []) (pk : Bytes) (flags : Nat)
    (hpk : pk.length = 32) (hfl : flags < 256)
    (n : Nat) (sh : Shared) (sig : Bytes) (st : List Bytes) (count : Nat)
    (hs : sh.stack = sig :: st) (hr : sh.returned = false)
    (h1 : 32 ≤ cfg.lim.maxItemSize) (h2 : st.length + 1 < cfg.lim.maxItems) :
    let r := runTape (instrTable H C cfg) cfg.lim (n + 30) (topFrame (singleSigLock pk flags) count) sh
    (match SigPure.checkSig H C cfg.lim.maxItemSize sh.cache flags sig pk with
     | .ok b => r.shared.stack = boolBytes b :: st ∧ Res.errOf r = none
     | .error e => r.shared.stack = st ∧ Res.errOf r = some (.user e)) := by
  intro r
  have hT2 : instrTable H C cfg 35 = readU1 fun allowed => checkSigCore H C allowed .done := sigExt_nil hno _
  have hcap := Nat.lt_succ_self (singleSigLock pk flags).length
  -- of the 30 units of fuel, 1 + 3 fetch and run PUSH1; 1 + 1 + 13 fetch CHECK_SIG, read its operand and check
  have e : r = (runOp (instrTable H C cfg) cfg.lim (n + 27) (checkSigCore H C flags .done)
      { topFrame (singleSigLock pk flags) count with rest := [] } { sh with stack := pk :: sh.stack }).bind
      (runTape (instrTable H C cfg) cfg.lim (n + 28)) := by
    refine (runTape_cons _ (singleSigLock_bytes pk flags hpk) hcap hr (n + 29)).trans ?_
    rw [show instrTable H C cfg 3 = opPush1 .done from rfl]
    refine (congrArg (Res.bind · _) (runOp_push1 _ _ (n + 26) .done _ sh pk [35, UInt8.ofNat flags] (by omega) rfl (by omega)
      (by rw [hs, List.length_cons]; omega))).trans ?_
    show runTape _ _ (n + 28 + 1) { topFrame (singleSigLock pk flags) count with rest := [35, UInt8.ofNat flags] } _ = _
    rw [runTape_cons _ (sh := { sh with stack := pk :: sh.stack }) rfl hcap hr, hT2]
    unfold readU1
    rw [runOp_read _ _ _ 1 _ { topFrame (singleSigLock pk flags) count with rest := [UInt8.ofNat flags] } _ (Nat.le_refl 1)]
    show (runOp _ _ _ (checkSigCore H C (natOfBytesBE [UInt8.ofNat flags]) .done) _ _).bind _ = _
    rw [u1_of_nat flags hfl]
    rfl
  rw [e, checkSigCore_refines _ _ H C flags .done (n + 14) _ _ pk sig st (by rw [hs]) (by omega) (by omega)]
  cases SigPure.checkSig H C cfg.lim.maxItemSize sh.cache flags sig pk <;> exact ⟨rfl, rfl⟩

/-- consequence for the authorization verdict: with the witness having left exactly `[sig]`, the
    lock alone authorizes iff the C02 specification yields `true` -/
theorem singleSigLock_accepts_iff (cfg : Cfg) (hno : cfg.sigExts = []) (pk : Bytes) (flags : Nat)
    (hpk : pk.length = 32) (hfl : flags < 256) (n : Nat) (sh : Shared) (sig : Bytes) (count : Nat)
    (hs : sh.stack = [sig]) (hr : sh.returned = false)
    (h1 : 32 ≤ cfg.lim.maxItemSize) (h2 : 1 < cfg.lim.maxItems) :
    let r := runTape (instrTable H C cfg) cfg.lim (n + 30) (topFrame (singleSigLock pk flags) count) sh
    (Res.errOf r = none ∧ r.shared.stack = [[0xff]]) ↔
      SigPure.checkSig H C cfg.lim.maxItemSize sh.cache flags sig pk = .ok true := by
  intro r
  have h := singleSigLock_run H C cfg hno pk flags hpk hfl n sh sig [] count hs hr h1 (by simpa using h2)
  cases hspec : SigPure.checkSig H C cfg.lim.maxItemSize sh.cache flags sig pk with
  | error e =>
    rw [hspec] at h
    exact ⟨fun he => (nomatch h.2.symm.trans he.1), nofun⟩
  | ok b =>
    rw [hspec] at h
    cases b
    · exact ⟨fun hst => absurd (h.1.symm.trans hst.2) (by decide), nofun⟩
    · exact ⟨fun _ => rfl, fun _ => ⟨h.2, h.1⟩⟩

section more
variable (cfg : Cfg)

/-- the outcome of the second single-signature layout (key committed by a 20-byte SHAKE-256 hash) -/
def singleSig2Spec (cache : List (CKey × CVal)) (pk pk' sig : Bytes) (flags : Nat) (st : List Bytes) : Except Err (List Bytes) :=
  if H.shake256 pk 20 = H.shake256 pk' 20 then
    match SigPure.checkSig H C cfg.lim.maxItemSize cache flags sig pk' with
    | .ok b => .ok (boolBytes b :: st)
    | .error e => .error (.user e)
  else .error (.user .see)

/-- **C13, single-signature lock, layout 2: exact outcome.** The witness supplies `sig` and a
    key `pk'`: unless `pk'` hashes to the committed hash the run is an error; otherwise it ends
    with exactly the C02 verdict of `sig` under `pk'`. -/
theorem singleSigLock2_run (hno : cfg.sigExts = []) (hH : ∀ x, (H.shake256 x 20).length = 20)
    (pk pk' sig : Bytes) (flags : Nat) (st : List Bytes) (sh : Shared) (count : Nat)
    (hpk' : pk'.length ≤ cfg.lim.maxItemSize) (hfl : flags < 256)
    (hs : sh.stack = pk' :: sig :: st) (hr : sh.returned = false)
    (hsz : 20 ≤ cfg.lim.maxItemSize) (hroom : st.length + 4 ≤ cfg.lim.maxItems) :
    Ends (instrTable H C cfg) cfg.lim (topFrame (singleSigLock2 H pk flags) count) sh
      (fun r => Res.summary r = singleSig2Spec H C cfg sh.cache pk pk' sig flags st) := by
  refine Run.top 2 (by simp only [singleSigLock2, List.append_assoc]; rfl) hs hr (by slots) ?_
  unfold singleSig2Spec
  refine Run.hashCheck (by decide) hH (by decide) hsz hpk' (fun heq => ?_) (fun hne => ?_)
  · rw [if_pos heq]
    exact Run.checkSig_last hno hfl (by omega) fun r h => h
  · rw [if_neg hne]
    rfl

/-- the outcome of the m-of-n multisignature lock: the C03 specification on the witness's
    signatures (as popped, last pushed first) and the lock's keys (as popped, last listed first) -/
def multisigSpec (cache : List (CKey × CVal)) (pks sigs : List Bytes) (flags : Nat) (st : List Bytes) : Except Err (List Bytes) :=
  match SigPure.multisig H C cfg.lim.maxItemSize cache flags sigs pks.reverse with
  | .ok b => .ok (boolBytes b :: st)
  | .error e => .error (.user e)

variable {H C cfg} in
/-- `OP_CHECK_MULTISIG <flags> <m> <n>` closing the tape, on `n` keys above `m` signatures: the C03 outcome, read in the
    cache as it stands -/
theorem Run.checkMultisig_last {fr : Frame} {sh : Shared} {k : Nat} {st : List Bytes} {wr : Written} {P : Res → Prop}
    (hno : cfg.sigExts = []) {keys sigs : List Bytes} {flags m n : Nat} (hfl : flags < 256) (hm : m < 256) (hn : n < 256)
    (hkl : keys.length = n) (hsl : sigs.length = m) (hsz : ∀ x ∈ keys ++ sigs, x.length ≤ cfg.lim.maxItemSize)
    (h1 : 1 ≤ cfg.lim.maxItemSize)
    (h : ∀ r, Res.summary r = sigOutcome (SigPure.multisig H C cfg.lim.maxItemSize (written wr sh.cache) flags sigs keys) st → P r) :
    Run H C cfg fr sh (k + 2) (opc 70 ++ (opc flags ++ (opc m ++ opc n))) (keys ++ (sigs ++ st)) wr P := by
  intro hcap hr hk
  have hinstr := fun r => C03.checkMultisig_instruction H C cfg hno (instrTable H C cfg) .done (fr.cont (opc flags ++ (opc m ++ opc n)))
    (sh.upd (keys ++ (sigs ++ st)) wr) flags m n [] keys sigs st r hfl hm hn rfl hkl hsl rfl hsz h1
    (by simp only [List.length_append] at hk; omega)
  rw [show (sh.upd (keys ++ (sigs ++ st)) wr).cache = written wr sh.cache from rfl] at hinstr
  cases hms : SigPure.multisig H C cfg.lim.maxItemSize (written wr sh.cache) flags sigs keys with
  | error e => exact ⟨_, TSteps.cons_err 70 _ rfl hcap hr (hinstr _ (by rw [hms])), h _ (by rw [hms]; rfl)⟩
  | ok b =>
    exact ⟨_, run_instr _ _ _ _ 70 _ _ rfl hcap hr (hinstr _ (by rw [hms]; exact Steps.done _ _)) (TSteps.nil rfl), h _ (by rw [hms]; rfl)⟩

/-- **C13, m-of-n multisignature lock: exact outcome.** Running `make_multisig_lock(pks, m)` on a
    stack holding `m` signature items above `st` ends with exactly the C03 specification
    `SigPure.multisig` of those signatures against the lock's keys — so by C03 it is true only if
    the signatures are pairwise distinct and matched to `m` *different* listed keys. -/
theorem multisigLock_run (hno : cfg.sigExts = []) (pks sigs : List Bytes) (m flags : Nat) (lock : Bytes)
    (hlock : multisigLock pks m flags = some lock)
    (st : List Bytes) (sh : Shared) (count : Nat)
    (hpk : ∀ k ∈ pks, k.length = 32) (hn : pks.length < 256) (hm : m < 256) (hfl : flags < 256)
    (hsl : sigs.length = m) (hsigs : ∀ s ∈ sigs, s.length ≤ cfg.lim.maxItemSize)
    (hs : sh.stack = sigs ++ st) (hr : sh.returned = false)
    (hsz : 32 ≤ cfg.lim.maxItemSize) (hroom : st.length + sigs.length + pks.length + 2 ≤ cfg.lim.maxItems) :
    Ends (instrTable H C cfg) cfg.lim (topFrame lock count) sh
      (fun r => Res.summary r = multisigSpec H C cfg sh.cache pks sigs flags st) := by
  have hb : lock = pks.flatMap pushB ++ (opc 70 ++ (opc flags ++ (opc m ++ opc pks.length))) := by
    unfold multisigLock at hlock
    split at hlock
    · injection hlock with hl
      rw [← hl]
      simp only [List.append_assoc]
    · cases hlock
  refine Run.top (2 + pks.length) hb hs hr (by simp only [List.length_append]; omega) ?_
  refine Run.pushes (fun v hv => by have := hpk v hv; omega) <|
    Run.checkMultisig_last hno hfl hm hn List.length_reverse hsl (fun x hx => ?_) (by omega) fun r h => h
  rcases List.mem_append.mp hx with h1 | h1
  · have := hpk x (List.mem_reverse.mp h1)
    omega
  · exact hsigs x h1

/-- the frame of a top-level script that has been read to its end -/
def endOf (script : Bytes) (count : Nat) : Frame := { topFrame script count with rest := [] }

theorem scripthashLock_bytes (script : Bytes) (hs : Nat) :
    scripthashLock H script hs = DUP ++ (SHAKE256 hs ++ (pushB (H.shake256 script hs) ++ (EQUAL_VERIFY ++ EVAL))) := by
  simp only [scripthashLock, List.append_assoc]

/-- **C13, script-hash lock, a different script.** A supplied script that does not hash to the
    committed hash ends the lock with an error before `OP_EVAL`: only the stack changed, so no
    instruction of the supplied script ran. -/
theorem scripthashLock_rejects (hs : Nat) (hhs : hs < 256) (hH : ∀ x, (H.shake256 x hs).length = hs) (hhs0 : 0 < hs)
    (script script' : Bytes) (st : List Bytes) (sh : Shared) (count : Nat)
    (hsc : script'.length ≤ cfg.lim.maxItemSize) (hstk : sh.stack = script' :: st) (hr : sh.returned = false)
    (hsz : hs ≤ cfg.lim.maxItemSize) (hroom : st.length + 3 ≤ cfg.lim.maxItems)
    (hne : H.shake256 script hs ≠ H.shake256 script' hs) :
    TSteps (instrTable H C cfg) cfg.lim (topFrame (scripthashLock H script hs) count) sh
      (.err (.user .see) { sh with stack := script' :: st }) :=
  Ends.tsteps <| Run.top 2 (scripthashLock_bytes H script hs) hstk hr (by slots) <|
    Run.hashCheck hhs hH hhs0 hsz hsc (fun heq => absurd heq hne) (fun _ => rfl)

/-- **C13, script-hash lock, the committed script (or any script with the same hash).** The lock
    ends exactly as the supplied script does when evaluated on the remaining stack. -/
theorem scripthashLock_accepts (hev : cfg.disallowEval = false) (hs : Nat) (hhs : hs < 256) (hH : ∀ x, (H.shake256 x hs).length = hs) (hhs0 : 0 < hs)
    (script script' : Bytes) (st : List Bytes) (sh : Shared) (count : Nat) (rL : Res)
    (hsc : script'.length ≤ cfg.lim.maxItemSize) (hne' : script' ≠ []) (hstk : sh.stack = script' :: st) (hr : sh.returned = false)
    (hsz : hs ≤ cfg.lim.maxItemSize) (hroom : st.length + 3 ≤ cfg.lim.maxItems) (hcnt : count < cfg.lim.callLimit)
    (heq : H.shake256 script hs = H.shake256 script' hs)
    (hL : TSteps (instrTable H C cfg) cfg.lim (evalFrame script' count (copyDict { sh with stack := st } 0).1)
            (copyDict { sh with stack := st } 0).2 rL) :
    TSteps (instrTable H C cfg) cfg.lim (topFrame (scripthashLock H script hs) count) sh
      (wrapEval cfg.evalReturn (endOf (scripthashLock H script hs) count) rL) :=
  Ends.tsteps <| Run.top 2 (scripthashLock_bytes H script hs) hstk hr (by slots) <|
    Run.hashCheck hhs hH hhs0 hsz hsc (fun _ => Run.eval_last hev hne' hcnt hL rfl) (fun hne => absurd heq hne)

def graftA (flags : Nat) : Bytes := DUP ++ (SWAP 1 2 ++ (readCache "k" ++ (CSS ++ (opc VERIFY ++ EVAL))))
def graftB (flags : Nat) : Bytes := readCache "k" ++ CHECK_SIG flags

theorem graftrootLock_bytes (pk : Bytes) (flags : Nat) :
    graftrootLock pk flags = pushB pk ++ (writeCache "k" 1 ++ ifElse (graftA flags) (graftB flags)) := by
  simp only [graftrootLock, setVar1, graftA, graftB, List.append_assoc]

/-- the graftroot lock up to the arm its selector `c` chooses: the key is written under `k`, and the arm runs, inline,
    on the items below the selector -/
theorem graftrootLock_arm {P : Res → Prop} {pk c : Bytes} {flags count : Nat} {st : List Bytes} {sh : Shared} (k : Nat)
    (hpk : pk.length = 32) (hs : sh.stack = c :: st) (hr : sh.returned = false) (hsz : 32 ≤ cfg.lim.maxItemSize)
    (hroom : st.length + k + 2 ≤ cfg.lim.maxItems)
    (harm : Run H C cfg (inlineFrame (if truthy c then graftA flags else graftB flags) (topFrame (graftrootLock pk flags) count) sh)
      (sh.copied 0) (k + 2) (if truthy c then graftA flags else graftB flags) st [(asciiBytes "k", .list [.bytes pk])]
      (fun rB => P (wrapInline ((topFrame (graftrootLock pk flags) count).cont []) rB))) :
    Ends (instrTable H C cfg) cfg.lim (topFrame (graftrootLock pk flags) count) sh P := by
  have hla : (graftA flags).length = 10 := rfl
  have hlb : (graftB flags).length = 5 := rfl
  refine Run.top (k + 1) (graftrootLock_bytes pk flags) hs hr (by slots) <|
    Run.pushKey hpk hsz <| Run.writeCache varName_k <| Run.ifElse_last (by omega) (by omega) ?_ harm
  rw [topFrame, graftrootLock_bytes]
  simp only [List.length_append, ifElse_length, hla, hlb]
  split <;> omega

def graftKeySpec (cache : List (CKey × CVal)) (pk sig : Bytes) (flags : Nat) (st : List Bytes) : Except Err (List Bytes) :=
  match SigPure.checkSig H C cfg.lim.maxItemSize cache flags sig pk with
  | .ok b => .ok (boolBytes b :: st)
  | .error e => .error (.user e)

/-- **C13, graftroot lock, key path: exact outcome.** With a false selector on top of a signature
    the lock ends with exactly the C02 verdict of the signature under the lock's key. -/
theorem graftrootLock_keypath_run (hno : cfg.sigExts = []) (pk c sig : Bytes) (flags : Nat) (st : List Bytes) (sh : Shared) (count : Nat)
    (hpk : pk.length = 32) (hfl : flags < 256) (hc : truthy c = false)
    (hs : sh.stack = c :: sig :: st) (hr : sh.returned = false)
    (hsz : 32 ≤ cfg.lim.maxItemSize) (hroom : st.length + 4 ≤ cfg.lim.maxItems) :
    Ends (instrTable H C cfg) cfg.lim (topFrame (graftrootLock pk flags) count) sh
      (fun r => Res.summary r = graftKeySpec H C cfg sh.cache pk sig flags st) := by
  refine graftrootLock_arm H C cfg 1 hpk hs hr hsz (by slots) ?_
  rw [hc, if_neg Bool.false_ne_true]
  exact Run.readCache varName_k rfl (by omega) <| Run.checkSig_last hno hfl (by omega) fun r h => (summary_wrapInline _ r).trans h

/-- **C13, graftroot lock, a surrogate not signed by the lock's key.** With a true selector on
    top of (surrogate script, signature): if the 64-byte signature does not verify under the
    lock's key over the surrogate's bytes, the lock ends in an error at the VERIFY before `OP_EVAL`
    — the surrogate is never evaluated. -/
theorem graftrootLock_surrogate_rejects (pk c script ssig : Bytes) (flags : Nat) (st : List Bytes) (sh : Shared) (count : Nat)
    (hpk : pk.length = 32) (hc : truthy c = true) (hsl : ssig.length = 64)
    (hs : sh.stack = c :: script :: ssig :: st) (hr : sh.returned = false)
    (hscr : script.length ≤ cfg.lim.maxItemSize)
    (hsz : 64 ≤ cfg.lim.maxItemSize) (hroom : st.length + 5 ≤ cfg.lim.maxItems)
    (hbad : Sodium.verify H C pk script ssig = false) :
    Ends (instrTable H C cfg) cfg.lim (topFrame (graftrootLock pk flags) count) sh
      (fun r => ∃ shE, r = .err (.user .see) shE ∧ shE.plog = sh.plog ∧ shE.randCtr = sh.randCtr ∧ shE.fns = sh.fns) := by
  refine graftrootLock_arm H C cfg 1 hpk hs hr (by omega) (by slots) ?_
  rw [hc, if_pos rfl]
  exact Run.graft (Run.readCache varName_k rfl (by omega)) hpk hsl hscr hsz
    (fun hv => absurd (hbad.symm.trans hv) Bool.false_ne_true) (fun _ => ⟨_, rfl, rfl, rfl, rfl⟩)

end more

end TV.C13
