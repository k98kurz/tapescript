import Tapeverif.Lemmas.Algebra
import Tapeverif.Lemmas.RunRel
/-! # C05 — taproot: the root binds key and script; key path and script path are exact

Instruction level (`OP_TAPROOT` as an op term of the VM model, executed symbolically with the
big-step rules) and group level (the algebra behind the root and the key-spend scalar). -/
namespace TV.C05

open Instr Tools TV.Algebra

variable (H : Hashes) (C : Curve)

/-- what `OP_TAPROOT` recomputes from a `(script, key)` witness: `clamp(sha256(key ‖ sha256(script)))·G + key` -/
def recompute (pubkey script : Bytes) : R Bytes := do
  let sc ← Sodium.clampScalar (H.sha256 (pubkey ++ H.sha256 script)) false
  let pt ← Sodium.derivePoint C sc
  Sodium.aggregatePoints C [pt, pubkey]

/-- the script path up to the recomputation: the flag byte read; root, key and script popped -/
theorem taproot_script_core {cfg : Cfg} {T : UInt8 → Op} {k : Op} {fr : Frame} {sh : Shared} {a : UInt8}
    {rest root pubkey script : Bytes} {st : List Bytes} {r : Res}
    (hrest : fr.rest = a :: rest) (hs : sh.stack = root :: pubkey :: script :: st)
    (hroot : root.length = 32) (hpk : pubkey.length = 32)
    (h : Steps T cfg.lim (liftR (recompute H C pubkey script) fun point =>
            if point == root then .push script (opEval cfg k) else .push [0x00] k)
          { fr with rest := rest } { sh with stack := st } r) :
    Steps T cfg.lim (opTaproot H C cfg k) fr sh r := by
  refine .readN (v := [a]) rfl hrest (.pop root _ hs ?_)
  rw [if_neg (by simp [hroot])]
  refine .peekTop pubkey _ rfl ?_
  rw [if_pos hpk]
  exact .pop pubkey _ rfl (.pop script st rfl h)

/-- **Script path, mismatch.** The pair does not recompute to the root: the instruction pushes
    `00` and continues (`k`); the EVAL step is not reached and, apart from the stack, the state
    is untouched — no instruction of the supplied script ran, and the verdict is false. -/
theorem taproot_script_mismatch (cfg : Cfg) (T : UInt8 → Op) (k : Op) (fr : Frame) (sh : Shared)
    (a : UInt8) (rest root pubkey script point : Bytes) (st : List Bytes) (r : Res)
    (hrest : fr.rest = a :: rest) (hs : sh.stack = root :: pubkey :: script :: st)
    (hroot : root.length = 32) (hpk : pubkey.length = 32)
    (hrc : recompute H C pubkey script = .ok point) (hne : point ≠ root)
    (h1 : 1 ≤ cfg.lim.maxItemSize) (hroom : st.length < cfg.lim.maxItems)
    (hk : Steps T cfg.lim k { fr with rest := rest } { sh with stack := [0x00] :: st } r) :
    Steps T cfg.lim (opTaproot H C cfg k) fr sh r :=
  taproot_script_core H C hrest hs hroot hpk (by
    rw [hrc]
    show Steps _ _ (if point == root then _ else _) _ _ _
    rw [if_neg (by simpa using hne)]
    exact .push h1 hroom hk)

/-- **Script path, an invalid key** (not a curve point, or the tweak point is the identity):
    the instruction raises that error; nothing runs. -/
theorem taproot_script_invalid (cfg : Cfg) (T : UInt8 → Op) (k : Op) (fr : Frame) (sh : Shared)
    (a : UInt8) (rest root pubkey script : Bytes) (st : List Bytes) (e : ErrKind)
    (hrest : fr.rest = a :: rest) (hs : sh.stack = root :: pubkey :: script :: st)
    (hroot : root.length = 32) (hpk : pubkey.length = 32)
    (hrc : recompute H C pubkey script = .error e) :
    Steps T cfg.lim (opTaproot H C cfg k) fr sh (.err (.user e) { sh with stack := st }) :=
  taproot_script_core H C hrest hs hroot hpk (by rw [hrc]; exact .fail _ _ _)

/-- **Script path, match.** The pair recomputes to the root: the instruction behaves exactly as
    `OP_EVAL` of the script on the remaining stack, whatever that outcome is. -/
theorem taproot_script_match (cfg : Cfg) (T : UInt8 → Op) (k : Op) (fr : Frame) (sh : Shared)
    (a : UInt8) (rest root pubkey script : Bytes) (st : List Bytes) (r : Res)
    (hrest : fr.rest = a :: rest) (hs : sh.stack = root :: pubkey :: script :: st)
    (hroot : root.length = 32) (hpk : pubkey.length = 32)
    (hrc : recompute H C pubkey script = .ok root)
    (hsz : script.length ≤ cfg.lim.maxItemSize) (hroom : st.length < cfg.lim.maxItems)
    (hk : Steps T cfg.lim (opEval cfg k) { fr with rest := rest } { sh with stack := script :: st } r) :
    Steps T cfg.lim (opTaproot H C cfg k) fr sh r :=
  taproot_script_core H C hrest hs hroot hpk (by
    rw [hrc]
    show Steps _ _ (if root == root then _ else _) _ _ _
    rw [if_pos (beq_self_eq_true _)]
    exact .push hsz hroom hk)

/-- **Key path.** The item under the root is not 32 bytes long: the instruction is exactly
    `OP_CHECK_SIG <allowed>` with the root as the public key (signature extensions first). -/
theorem taproot_key_path (cfg : Cfg) (T : UInt8 → Op) (k : Op) (fr : Frame) (sh : Shared)
    (a : UInt8) (rest root sig : Bytes) (st : List Bytes) (r : Res)
    (hrest : fr.rest = a :: rest) (hs : sh.stack = root :: sig :: st)
    (hroot : root.length = 32) (hsig : sig.length ≠ 32)
    (h32 : 32 ≤ cfg.lim.maxItemSize) (hroom : st.length + 1 < cfg.lim.maxItems)
    (hk : Steps T cfg.lim (sigExt cfg (checkSigCore H C a.toNat k)) { fr with rest := rest }
            { sh with stack := root :: sig :: st } r) :
    Steps T cfg.lim (opTaproot H C cfg k) fr sh r := by
  refine .readN (v := [a]) rfl hrest (.pop root _ hs ?_)
  rw [if_neg (by simp [hroot])]
  refine .peekTop sig st rfl ?_
  rw [if_neg hsig]
  refine .push (hroot ▸ h32) hroom ?_
  rwa [natOfBytesBE_singleton]

/-- … hence, with no signature-extension plugin installed, the key path ends with exactly the
    C02 specification's verdict of `sig` under the **root** as public key on the stack, or with
    exactly its error (`SigPure.checkSig`: 64/65-byte signature, flag permitted by `allowed`,
    Ed25519-valid over the message the flag selects). -/
theorem taproot_key_path_spec (cfg : Cfg) (hno : cfg.sigExts = []) (T : UInt8 → Op) (fr : Frame) (sh : Shared)
    (a : UInt8) (rest root sig : Bytes) (st : List Bytes)
    (hrest : fr.rest = a :: rest) (hs : sh.stack = root :: sig :: st)
    (hroot : root.length = 32) (hsig : sig.length ≠ 32)
    (h32 : 32 ≤ cfg.lim.maxItemSize) (hroom : st.length + 1 < cfg.lim.maxItems) :
    Steps T cfg.lim (opTaproot H C cfg .done) fr sh
      (match SigPure.checkSig H C cfg.lim.maxItemSize sh.cache a.toNat sig root with
       | .ok b => .ok { fr with rest := rest } { sh with stack := boolBytes b :: st }
       | .error e => .err (.user e) { sh with stack := st }) :=
  taproot_key_path H C cfg T .done fr sh a rest root sig st _ hrest hs hroot hsig h32 hroom
    (by rw [sigExt_nil hno]; exact .checkSigCore_done rfl (by omega) (by omega))

section
variable {P : Type} [AddCommGroup P] (G : P) (L : ℕ) (hL : L • G = 0)

/-- the builder adds `P + X`, the instruction adds `X + P`: the same root -/
theorem root_builder_eq_vm (Pk X : P) : Pk + X = X + Pk := add_comm _ _

include hL in
/-- the key-spend witness signs with `(x + t) mod L`, the secret scalar of the root `x•G + t•G` -/
theorem keyspend_scalar_is_root_secret (x t : ℕ) : ((x + t) % L) • G = x • G + t • G :=
  taproot_keyspend_scalar G L hL x t

include hL in
/-- the untweaked key's scalar is not the root's secret unless the tweak point is the identity -/
theorem untweaked_scalar_is_not_root_secret (x t : ℕ) (ht : t • G ≠ 0) :
    (x % L) • G ≠ x • G + t • G := untweaked_ne G L hL x _ ht
end

/-- the model's builder root is the instruction's recomputation with the operands of the final
    addition exchanged (`aggregatePoints [pk, X]` vs `[X, pk]`) — the byte-level counterpart of
    `root_builder_eq_vm`; the two are compared on concrete inputs on every run -/
theorem builder_root_unfold (pk script : Bytes) :
    taprootRoot H C pk (H.sha256 script) =
      (do let t ← Sodium.clampScalar (H.sha256 (pk ++ H.sha256 script)) false
          let X ← Sodium.derivePoint C t
          Sodium.aggregatePoints C [pk, X]) := rfl

/-- the bytes of a (native) taproot lock for a given root -/
def tapLock (root : Bytes) (flags : Nat) : Bytes := pushB root ++ (opc 91 ++ opc flags)

theorem taprootLock_bytes (pk commitment root : Bytes) (flags : Nat) (h : taprootRoot H C pk commitment = .ok root) :
    taprootLock H C pk commitment flags = .ok (tapLock root flags) := by
  unfold taprootLock tapLock
  rw [h]
  simp [bind, Except.bind, pure, Except.pure, List.append_assoc]

section rules
variable {H C} {cfg : Cfg} {fr : Frame} {sh : Shared} {k : Nat} {rest : Bytes} {st : List Bytes} {wr : Written} {P : Res → Prop}
  {flags : Nat} {root pubkey script sig : Bytes}

/-- `OP_TAPROOT <flags>` closing the tape, key path: the C02 outcome of `sig` under the root, read in the embedder's cache -/
theorem Run.taprootKey_last (hno : cfg.sigExts = []) (hfl : flags < 256) (hroot : root.length = 32) (hsig : sig.length ≠ 32)
    (h32 : 32 ≤ cfg.lim.maxItemSize)
    (h : ∀ r, Res.summary r = sigOutcome (SigPure.checkSig H C cfg.lim.maxItemSize sh.cache flags sig root) st → P r) :
    Run H C cfg fr sh k (opc 91 ++ opc flags) (root :: sig :: st) wr P := by
  intro hcap hr hk
  have hspec := taproot_key_path_spec H C cfg hno (instrTable H C cfg) (fr.cont (opc flags)) (sh.upd (root :: sig :: st) wr)
    (UInt8.ofNat flags) [] root sig st rfl rfl hroot hsig h32 (by slots)
  rw [toNat_ofNat_of_lt hfl,
    show (sh.upd (root :: sig :: st) wr).cache = written wr sh.cache from rfl, checkSig_written] at hspec
  exact ⟨_, .last 91 _ rfl hcap hr hspec (by intro f s he; split at he <;> cases he; rfl),
    h _ (by cases SigPure.checkSig H C cfg.lim.maxItemSize sh.cache flags sig root <;> rfl)⟩

/-- `OP_TAPROOT <flags>`, script path, on a pair that does not recompute to the root: `00` in place of the three items -/
theorem Run.taprootMismatch {point : Bytes} (hroot : root.length = 32) (hpk : pubkey.length = 32)
    (hrc : recompute H C pubkey script = .ok point) (hne : point ≠ root) (h1 : 1 ≤ cfg.lim.maxItemSize)
    (h : Run H C cfg fr sh (k + 2) rest ([0x00] :: st) wr P) :
    Run H C cfg fr sh k (opc 91 ++ (opc flags ++ rest)) (root :: pubkey :: script :: st) wr P :=
  Run.instr (c := 91) h (by slots) fun hk =>
    taproot_script_mismatch H C cfg _ .done _ _ (UInt8.ofNat flags) rest root pubkey script point st _ rfl rfl
      hroot hpk hrc hne h1 (by slots) (.done _ _)

/-- `OP_TAPROOT <flags>` closing the tape, script path, on a pair that recomputes to the root: `OP_EVAL` of the script -/
theorem Run.taprootMatch_last {rL : Res} (hev : cfg.disallowEval = false) (hroot : root.length = 32) (hpk : pubkey.length = 32)
    (hrc : recompute H C pubkey script = .ok root) (hscr : script.length ≤ cfg.lim.maxItemSize) (hne : script ≠ [])
    (hc : getCount fr sh < cfg.lim.callLimit)
    (hb : TSteps (instrTable H C cfg) cfg.lim (evalFrame script (getCount fr sh) (copyDict (sh.upd st wr) fr.dict).1)
            (copyDict (sh.upd st wr) fr.dict).2 rL)
    (h : P (wrapEval cfg.evalReturn (fr.cont []) rL)) :
    Run H C cfg fr sh k (opc 91 ++ opc flags) (root :: pubkey :: script :: st) wr P :=
  fun hcap hr hk => ⟨_, tape_single (fr.cont _) (sh.upd _ wr) 91 [UInt8.ofNat flags] (fr.cont []) rfl cfg.evalReturn rL rfl hcap hr
    (taproot_script_match H C cfg _ .done (fr.cont _) (sh.upd _ wr) (UInt8.ofNat flags) [] root pubkey script st _ rfl rfl hroot hpk hrc
      hscr (by slots)
      (.opEval_done hev rfl hne hc hb)), h⟩

end rules

/-- **C05, the lock, key path: exact outcome.** A witness that leaves a non-32-byte item `sig` on
    top: the lock ends with exactly the C02 verdict of `sig` under the **root** as public key
    with the lock's permitted flags. -/
theorem tapLock_keypath_run (cfg : Cfg) (hno : cfg.sigExts = []) (root sig : Bytes) (flags : Nat) (st : List Bytes) (sh : Shared) (count : Nat)
    (hroot : root.length = 32) (hsig : sig.length ≠ 32) (hfl : flags < 256)
    (hs : sh.stack = sig :: st) (hr : sh.returned = false)
    (h32 : 32 ≤ cfg.lim.maxItemSize) (hroom : st.length + 2 ≤ cfg.lim.maxItems) :
    Ends (instrTable H C cfg) cfg.lim (topFrame (tapLock root flags) count) sh
      (fun r => Res.summary r = (match SigPure.checkSig H C cfg.lim.maxItemSize sh.cache flags sig root with
          | .ok b => .ok (boolBytes b :: st)
          | .error e => .error (.user e))) :=
  Run.top 1 rfl hs hr (by slots) <| Run.pushKey hroot (by omega) <|
    Run.taprootKey_last hno hfl hroot hsig h32 fun r h => h

/-- **C05, the lock, script path, a pair that does not recompute to the root**: the lock leaves
    `00` — the verdict is false — and the supplied script is never evaluated (only the stack changed). -/
theorem tapLock_scriptpath_mismatch (cfg : Cfg) (root pubkey script point : Bytes) (flags : Nat) (st : List Bytes) (sh : Shared) (count : Nat)
    (hroot : root.length = 32) (hpk : pubkey.length = 32)
    (hrc : recompute H C pubkey script = .ok point) (hne : point ≠ root)
    (hs : sh.stack = pubkey :: script :: st) (hr : sh.returned = false)
    (h32 : 32 ≤ cfg.lim.maxItemSize) (hroom : st.length + 3 ≤ cfg.lim.maxItems) :
    TSteps (instrTable H C cfg) cfg.lim (topFrame (tapLock root flags) count) sh
      (.ok { rest := [], count := count, fn := none, dict := 0, len0 := (tapLock root flags).length, cap := (tapLock root flags).length + 1 }
           { sh with stack := [0x00] :: st }) :=
  Ends.tsteps <| Run.top 1 rfl hs hr (by slots) <| Run.pushKey hroot (by omega) <|
    Run.taprootMismatch hroot hpk hrc hne (by omega) (Run.nil rfl)

end TV.C05
