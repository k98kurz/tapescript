import Tapeverif.Props.C05Locks
import Tapeverif.Props.C13Locks
/-!
# C13 / C05 — the graftap lock: a taproot lock that commits to a graftroot script

`make_graftap_lock(pk)` is `make_taproot_lock(pk, committed)` with the committed script
`dup swap 1 2 push <pk> check_sig_stack verify eval`. `Props/C05Locks.lean` shows that the taproot
lock, handed a (script, key) pair that recomputes to its root, ends with exactly the committed
script's own outcome. Here the committed script itself is executed: with (surrogate, signature) on
the stack it ends with exactly the surrogate's outcome when the signature verifies under `pk` over
the surrogate's bytes, and with the VERIFY failure — the surrogate never evaluated — when it does
not. Composed: the script-spend path of the graftap lock.
-/
namespace TV.C13
open Tools

variable (H : Hashes) (C : Curve) (cfg : Cfg)

theorem graftapCommitted_bytes (pk : Bytes) :
    graftapCommitted pk = DUP ++ (SWAP 1 2 ++ (pushB pk ++ (CSS ++ (opc VERIFY ++ EVAL)))) := by
  simp [graftapCommitted, List.append_assoc]

theorem graftapCommitted_length_le (pk : Bytes) : (graftapCommitted pk).length ≤ pk.length + 10 := by
  have := pushB_length_le pk
  simp only [graftapCommitted_bytes, List.length_append, DUP, SWAP, CSS, EVAL, opc, List.length_cons, List.length_nil]
  omega

/-- **the committed script, a surrogate the key signed**: evaluated (as `OP_TAPROOT` / `OP_EVAL` do,
    in an evaluation frame) on (surrogate, signature), it evaluates the surrogate on the remaining
    stack and ends with exactly the surrogate's own outcome -/
theorem graftapCommitted_accepts (hev : cfg.disallowEval = false)
    (pk script ssig : Bytes) (st : List Bytes) (sh : Shared) (count d : Nat) (rL : Res)
    (hpk : pk.length = 32) (hsl : ssig.length = 64)
    (hs : sh.stack = script :: ssig :: st) (hr : sh.returned = false)
    (hscr : script.length ≤ cfg.lim.maxItemSize) (hne : script ≠ [])
    (hsz : 64 ≤ cfg.lim.maxItemSize) (hroom : st.length + 4 ≤ cfg.lim.maxItems) (hcnt : count + 1 < cfg.lim.callLimit)
    (hgood : Sodium.verify H C pk script ssig = true)
    (hL : TSteps (instrTable H C cfg) cfg.lim (evalFrame script (count + 1) (copyDict { sh with stack := st } d).1)
            (copyDict { sh with stack := st } d).2 rL) :
    Ends (instrTable H C cfg) cfg.lim (evalFrame (graftapCommitted pk) count d) sh
      (fun r => Res.summary r = Res.summary rL) :=
  Run.ends 2 (graftapCommitted_bytes pk) hs (Nat.lt_succ_self _) hr (by slots) <|
    Run.graft (Run.pushKey hpk (by omega)) hpk hsl hscr hsz
      (fun _ => Run.eval_last hev hne hcnt hL (summary_wrapEval _ _ _)) (fun hv => absurd (hv.symm.trans hgood) Bool.false_ne_true)

/-- **the committed script, a surrogate the key did not sign**: it ends in the VERIFY failure; the
    surrogate is never evaluated (the failure precedes the EVAL) -/
theorem graftapCommitted_rejects
    (pk script ssig : Bytes) (st : List Bytes) (sh : Shared) (count d : Nat)
    (hpk : pk.length = 32) (hsl : ssig.length = 64)
    (hs : sh.stack = script :: ssig :: st) (hr : sh.returned = false)
    (hscr : script.length ≤ cfg.lim.maxItemSize)
    (hsz : 64 ≤ cfg.lim.maxItemSize) (hroom : st.length + 4 ≤ cfg.lim.maxItems)
    (hbad : Sodium.verify H C pk script ssig = false) :
    TSteps (instrTable H C cfg) cfg.lim (evalFrame (graftapCommitted pk) count d) sh
      (.err (.user .see) { sh with stack := script :: st }) :=
  Ends.tsteps <| Run.ends 2 (graftapCommitted_bytes pk) hs (Nat.lt_succ_self _) hr (by slots) <|
    Run.graft (Run.pushKey hpk (by omega)) hpk hsl hscr hsz
      (fun hv => absurd (hbad.symm.trans hv) Bool.false_ne_true) (fun _ => rfl)

/-- **C13 / C05, the graftap lock, script-spend path with a surrogate the key signed.** The witness
    leaves (key, committed script, surrogate, signature): if the pair recomputes to the lock's root
    and the signature verifies under the key over the surrogate's bytes, the lock ends with exactly
    the surrogate's own outcome — its final stack or its error. -/
theorem graftapLock_surrogate_accepts (hev : cfg.disallowEval = false)
    (root pk script ssig : Bytes) (flags : Nat) (st : List Bytes) (sh : Shared) (count : Nat) (rL : Res)
    (hroot : root.length = 32) (hpk : pk.length = 32) (hsl : ssig.length = 64)
    (hrc : C05.recompute H C pk (graftapCommitted pk) = .ok root)
    (hs : sh.stack = pk :: graftapCommitted pk :: script :: ssig :: st) (hr : sh.returned = false)
    (hscr : script.length ≤ cfg.lim.maxItemSize) (hne : script ≠ [])
    (hsz : 64 ≤ cfg.lim.maxItemSize) (hroom : st.length + 5 ≤ cfg.lim.maxItems) (hcnt : count + 2 < cfg.lim.callLimit)
    (hgood : Sodium.verify H C pk script ssig = true)
    (hL : TSteps (instrTable H C cfg) cfg.lim
            (evalFrame script (count + 1)
              (copyDict { (copyDict { sh with stack := script :: ssig :: st } 0).2 with stack := st } (copyDict { sh with stack := script :: ssig :: st } 0).1).1)
            (copyDict { (copyDict { sh with stack := script :: ssig :: st } 0).2 with stack := st } (copyDict { sh with stack := script :: ssig :: st } 0).1).2 rL) :
    Ends (instrTable H C cfg) cfg.lim (topFrame (C05.tapLock root flags) count) sh
      (fun r => Res.summary r = Res.summary rL) := by
  obtain ⟨rC, hC, hP⟩ := graftapCommitted_accepts H C cfg hev pk script ssig st
    (copyDict { sh with stack := script :: ssig :: st } 0).2 count (copyDict { sh with stack := script :: ssig :: st } 0).1 rL
    hpk hsl rfl hr hscr hne hsz (by omega) (by omega) hgood hL
  have hcl := graftapCommitted_length_le pk
  obtain ⟨r, hT, hS⟩ := C05.tapLock_scriptpath_match H C cfg hev root pk (graftapCommitted pk) flags (script :: ssig :: st) sh count rC
    hroot hpk hrc hs hr (by omega) (graftapCommitted_bytes pk ▸ List.cons_ne_nil _ _) (by omega) (by slots) (by omega) hC
  exact ⟨r, hT, hS.trans hP⟩

end TV.C13
