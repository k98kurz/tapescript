import Tapeverif.Lemmas.Term
import Tapeverif.Lemmas.NoGuard
import Tapeverif.Lemmas.VMRun
/-!
# C07 — every run ends

"… never … a single loop that does not end": for every op table, all limits, every script (or
list of scripts) and every initial cache, the model's run ends — there is a fuel from which on
the outcome no longer changes and is not the out-of-fuel marker. The fuel parameter of the
interpreters is therefore only a device to define them; every theorem stated "for every fuel"
speaks about the one outcome the run has.

The bound comes from the mechanisms the property names: `OP_CALL` and the evaluating
instructions raise the call counter and refuse at `callstack_limit`, block bodies are proper
substrings of their tape, a loop runs at most `callstack_limit` iterations, and every read
consumes tape.

For the real instruction table (`script_outcome`, `auth_outcome`): the outcome is a normal end or a
Python-visible exception — never one of the model's own markers (out of fuel, the ghost assertion
of C01, the substring guard that keeps the kernel terminating for arbitrary tables, the
uncatchable failure used to state soft-fork safety). `Lemmas/NoGuard.lean` shows by a syntactic
invariant of all 92 instructions (+ NOP) that block bodies are always bytes just read from the
instruction's own tape, so the guard is dead code for them.
-/
namespace TV.C07

variable (T : UInt8 → Op) (L : Limits)

theorem wf_initShared (cache : List (CKey × CVal)) : WF (initShared cache) := by
  intro d hd p hp
  simp only [initShared, List.mem_singleton] at hd
  subst hd
  cases hp

/-- **C07.7 every tape run ends**, from every frame and every well-formed state (every state a
    run can reach is well formed: `counts_main`). -/
theorem tape_terminates (fr : Frame) (sh : Shared) (hw : WF sh) :
    ∃ n r, r.isFuel = false ∧ ∀ m, n ≤ m → runTape T L m fr sh = r :=
  runTape_terminates T L fr sh hw

/-- **C07.7 every script run ends**: `run_script` has exactly one outcome. -/
theorem script_terminates (script : Bytes) (cache : List (CKey × CVal)) :
    ∃ n r, r.isFuel = false ∧ ∀ m, n ≤ m → runScript T L m script cache = r :=
  runTape_terminates T L _ _ (wf_initShared cache)

theorem runAuthRest_halts : ∀ (scripts : List Bytes) (count : Nat) (sh : Shared), WF sh →
    Halts (runAuthRest T L · scripts count sh)
  | [], _, _, _ => .const rfl
  | s :: rest, count, sh, hw =>
    have hw' : WF ({ sh with returned := false } : Shared) := hw
    Halts.bind (X := (runTape T L · (topFrame s count) { sh with returned := false }))
      (g := fun n fr sh' => runAuthRest T L n rest fr.count sh') (runTape_halts T L _ _ hw')
      fun f s' hS => runAuthRest_halts rest f.count s' (hS.tape_counts (c0 := 0) hw' (Nat.zero_le _)).1

/-- **C07.7 every authorization ends**: `run_auth_scripts` has exactly one verdict. -/
theorem auth_terminates (scripts : List Bytes) (cache : List (CKey × CVal)) :
    ∃ n v, (runAuthRes T L n scripts cache).isFuel = false ∧ ∀ m, n ≤ m → runAuth T L m scripts cache = v := by
  obtain ⟨n, r, hf, h⟩ := (runAuthRest_halts T L scripts 0 (initShared cache) (wf_initShared cache)).outcome
  have hr : ∀ m, n ≤ m → runAuthRes T L m scripts cache = r := h
  exact ⟨n, runAuth T L n scripts cache, by rw [hr n (Nat.le_refl _)]; exact hf,
    fun m hm => by unfold runAuth; rw [hr m hm, hr n (Nat.le_refl _)]⟩

/-! ### the real table: only normal ends and Python-visible exceptions -/

/-- the outcome is a normal end or an exception a Python caller would see -/
def Res.visible : Res → Prop
  | .ok _ _ => True
  | .err (.user _) _ => True
  | .err _ _ => False

theorem bounded_table (H : Hashes) (C : Curve) (cfg : Cfg) (c : UInt8) (B0 : Nat) : Bounded B0 (instrTable H C cfg c) :=
  bounded_instr H C cfg c.toNat .done (by simp [Bounded])

/-- no guard and no abort: what `NG` says of an error, for outcomes whose frame does not matter -/
def Res.noMarker : Res → Prop
  | .ok _ _ => True
  | .err e _ => e ≠ .guard ∧ e ≠ .abort

theorem noMarker_of_ng {fr : Frame} : ∀ {r : Res}, NG fr r → Res.noMarker r
  | .ok _ _, _ => trivial
  | .err _ _, h => h

theorem Res.noMarker.bind {X : Res} {g : Frame → Shared → Res} (hX : Res.noMarker X) (hg : ∀ f s, Res.noMarker (g f s)) :
    Res.noMarker (X.bind g) := by
  cases X with
  | err e s => exact hX
  | ok f s => exact hg f s

/-- a run that ends, and at no fuel gives the ghost assertion, the guard or `abort`, has a visible outcome -/
theorem visible_outcome {f : Nat → Res} (h : Halts f) (hg : ∀ n, (f n).isGhost = false) (hn : ∀ n, Res.noMarker (f n)) :
    ∃ n r, Res.visible r ∧ ∀ m, n ≤ m → f m = r := by
  obtain ⟨n, r, hf, h⟩ := h.outcome
  refine ⟨n, r, ?_, h⟩
  have hg := h n (Nat.le_refl _) ▸ hg n
  have hn := h n (Nat.le_refl _) ▸ hn n
  cases r with
  | ok f s => trivial
  | err e s =>
    cases e with
    | user k => trivial
    | fuel => cases hf
    | ghost => cases hg
    | guard => exact absurd rfl hn.1
    | abort => exact absurd rfl hn.2

theorem runTape_noMarker (H : Hashes) (C : Curve) (cfg : Cfg) (fuel : Nat) (s : Bytes) (count : Nat) (sh : Shared) :
    Res.noMarker (runTape (instrTable H C cfg) cfg.lim fuel (topFrame s count) sh) :=
  noMarker_of_ng ((noguard_main (instrTable H C cfg) cfg.lim (bounded_table H C cfg) fuel).2.2 (topFrame s count) sh
    (Nat.le_refl _) (Nat.lt_succ_self _))

theorem runAuthRest_noMarker (H : Hashes) (C : Curve) (cfg : Cfg) (fuel : Nat) : ∀ (scripts : List Bytes) (count : Nat)
    (sh : Shared), Res.noMarker (runAuthRest (instrTable H C cfg) cfg.lim fuel scripts count sh)
  | [], _, _ => trivial
  | s :: rest, count, sh =>
    (runTape_noMarker H C cfg fuel s count { sh with returned := false }).bind
      fun f s' => runAuthRest_noMarker H C cfg fuel rest f.count s'

/-- **C07.7, real table: every script run ends, normally or in a Python-visible exception.** -/
theorem script_outcome (H : Hashes) (C : Curve) (cfg : Cfg) (script : Bytes) (cache : List (CKey × CVal)) :
    ∃ n r, Res.visible r ∧ ∀ m, n ≤ m → runScript (instrTable H C cfg) cfg.lim m script cache = r :=
  visible_outcome (runTape_halts _ _ _ _ (wf_initShared cache))
    (fun n => (post_shared cfg.lim (runTape_post _ _ n _ _ (initShared_inv cfg.lim cache) rfl)).2.2)
    fun n => runTape_noMarker H C cfg n script 0 _

/-- **C07.7, real table: every authorization ends with a verdict computed from a normal end or a
    Python-visible exception.** -/
theorem auth_outcome (H : Hashes) (C : Curve) (cfg : Cfg) (scripts : List Bytes) (cache : List (CKey × CVal)) :
    ∃ n r, Res.visible r ∧ ∀ m, n ≤ m → runAuthRes (instrTable H C cfg) cfg.lim m scripts cache = r :=
  visible_outcome (runAuthRest_halts _ _ scripts 0 _ (wf_initShared cache))
    (fun n => (post_shared cfg.lim (runAuthRest_post _ _ n scripts 0 _ (initShared_inv cfg.lim cache))).2.2)
    fun n => runAuthRest_noMarker H C cfg n scripts 0 _

def endsInSee : Res → Bool
  | .err (.user .see) _ => true
  | _ => false

/-- Example: a script that would loop forever without the budget (`true loop { true }` =
    `01 2f 0001 01`, call limit 3) ends in the loop-limit error. -/
example : endsInSee (runScript (fun c => if c = 1 then Op.push [0xff] .done else if c = 47 then
      (Op.read 2 fun _ => Op.read 1 fun body => Op.loop body .done) else .fail .see)
      ⟨1024, 1024, 3⟩ 20 [1, 47, 0, 1, 1] []) = true := by decide

end TV.C07
