import Tapeverif.Lemmas.SigRefine
/-! # C02 — signature instructions verify exactly the flag-selected message

`SigPure.checkSig` / `SigPure.message` are the specifications; `checkSig_instruction` ties them
to the VM's `Op` term by symbolic execution. `Hashes` / `Curve` are arbitrary. -/
namespace TV.C02

open Instr SigPure

variable (T : UInt8 → Op) (L : Limits) (H : Hashes) (C : Curve)

/-- C02.0 what the instruction does is what the specification says (for every op table, stack
    with room, cache): it pops key and signature and then either raises exactly the
    specification's error or pushes exactly the specification's Boolean. -/
theorem checkSig_instruction (allowed : Nat) (k : Op) (n : Nat) (fr : Frame) (sh : Shared)
    (vkey sig : Bytes) (st : List Bytes) (hs : sh.stack = vkey :: sig :: st)
    (h1 : 1 ≤ L.maxItemSize) (h2 : st.length < L.maxItems) :
    runOp T L (n + 13) (checkSigCore H C allowed k) fr sh =
      (match checkSig H C L.maxItemSize sh.cache allowed sig vkey with
       | .ok b => runOp T L n k fr { sh with stack := boolBytes b :: st }
       | .error e => .err (.user e) { sh with stack := st }) :=
  checkSigCore_refines T L H C allowed k n fr sh vkey sig st hs h1 h2

/-- the code's eight per-bit tests say: every flag bit below 8 is an allowed bit -/
theorem flagsAllowed_iff_testBit (f a : Nat) :
    flagsAllowed f a = true ↔ ∀ i < 8, f.testBit i = true → a.testBit i = true := by
  simp only [flagsAllowed, List.all_eq_true, List.mem_range, Bool.or_eq_true, decide_eq_true_eq,
    Nat.testBit_eq_decide_div_mod_eq]
  exact forall₂_congr fun i _ => by omega

/-- … and so does the mask test of the property, for a one-byte `allowed` operand and any flag:
    below bit 8 `a ^^^ 255` is the complement of `a`, and from bit 8 on it is clear since `a < 2^8` -/
theorem flagsAllowed_iff_and_xor (f : Nat) {a : Nat} (ha : a < 256) :
    flagsAllowed f a = true ↔ f &&& (a ^^^ 255) = 0 := by
  rw [flagsAllowed_iff_testBit, Nat.eq_iff_testBit_eq]
  refine forall_congr' fun i => ?_
  rw [Nat.testBit_and, Nat.testBit_xor, Nat.zero_testBit, show 255 = 2 ^ 8 - 1 from rfl,
    Nat.testBit_two_pow_sub_one]
  by_cases hi : i < 8
  · cases f.testBit i <;> cases a.testBit i <;> simp [hi]
  · have ha' : a.testBit i = false :=
      Nat.testBit_lt_two_pow
        (Nat.lt_of_lt_of_le ha (Nat.pow_le_pow_right Nat.zero_lt_two (Nat.le_of_not_lt hi)))
    simp [hi, ha']

theorem flagsAllowed_iff_mask : ∀ f < 256, ∀ a < 256,
    (flagsAllowed f a = true ↔ f &&& (a ^^^ 255) = 0) :=
  fun f _ _ ha => flagsAllowed_iff_and_xor f ha

/-- C02.2a a flag bit not permitted by the allowed-flags operand is an execution error — never
    true — whatever the key, signature and cache. -/
theorem checkSig_error_of_disallowed (mis : Nat) (cache : List (CKey × CVal)) (allowed : Nat)
    (sig vkey : Bytes) (hk : vkey.length = 32) (hs : sig.length = 65)
    (hf : flagsAllowed (sig.getLast?.getD 0).toNat allowed = false) :
    checkSig H C mis cache allowed sig vkey = .error .see := by
  unfold checkSig
  simp [hk, hs, hf]
  rfl

/-- C02.2b a key that is not 32 bytes or a signature that is not 64 / 65 bytes is an error. -/
theorem checkSig_error_of_bad_length (mis : Nat) (cache : List (CKey × CVal)) (allowed : Nat)
    (sig vkey : Bytes) (h : vkey.length ≠ 32 ∨ (sig.length ≠ 64 ∧ sig.length ≠ 65)) :
    checkSig H C mis cache allowed sig vkey = .error .value := by
  unfold checkSig
  by_cases hk : vkey.length ≠ 32
  · rw [if_pos hk]; rfl
  · rw [if_neg hk, if_pos (h.resolve_left hk)]; rfl

/-- C02.3 otherwise the result is exactly the Ed25519 verification, under the supplied key, of
    the first 64 bytes of the signature over the flag-selected message. -/
theorem checkSig_true_iff (mis : Nat) (cache : List (CKey × CVal)) (allowed : Nat) (sig vkey m : Bytes)
    (hk : vkey.length = 32) (hs : sig.length = 64 ∨ sig.length = 65)
    (hf : flagsAllowed (if sig.length = 64 then 0 else (sig.getLast?.getD 0).toNat) allowed = true)
    (hm : message (if sig.length = 64 then 0 else (sig.getLast?.getD 0).toNat) cache = .ok m)
    (hfit : m.length ≤ mis) :
    checkSig H C mis cache allowed sig vkey = .ok (Sodium.verify H C vkey m (sig.take 64)) := by
  unfold checkSig
  have hs' : ¬ (sig.length ≠ 64 ∧ sig.length ≠ 65) := by omega
  simp only [hk, ne_eq, not_true_eq_false, ↓reduceIte, hs', hf, Bool.not_true, Bool.false_eq_true, hm]
  simp [bind, Except.bind, hfit]
  rfl

/-- C02.4 sign-then-check succeeds for every flag the checker allows, for any signature scheme
    whose verification accepts its own signatures (completeness — a *hypothesis* about the
    `Hashes`/`Curve` parameters, true of Ed25519) and produces 64-byte signatures / 32-byte keys. -/
theorem sign_then_check (mis : Nat) (cache : List (CKey × CVal)) (allowed flag : Nat) (seed m : Bytes)
    (hflag : flag < 256)
    (hcomplete : ∀ msg, Sodium.verify H C (Sodium.publicKey H C seed) msg (Sodium.sign H C seed msg) = true)
    (hlen : ∀ msg, (Sodium.sign H C seed msg).length = 64) (hpk : (Sodium.publicKey H C seed).length = 32)
    (hf : flagsAllowed flag allowed = true) (hm : message flag cache = .ok m) (hfit : m.length ≤ mis) :
    checkSig H C mis cache allowed
      (if flag ≠ 0 then Sodium.sign H C seed m ++ [UInt8.ofNat flag] else Sodium.sign H C seed m)
      (Sodium.publicKey H C seed) = .ok true := by
  -- whichever form the signer produced, the checker reads the signer's flag back and finds the signature in the first 64 bytes
  generalize hsig : (if flag ≠ 0 then Sodium.sign H C seed m ++ [UInt8.ofNat flag] else Sodium.sign H C seed m) = sig
  have key : (sig.length = 64 ∨ sig.length = 65) ∧
      (if sig.length = 64 then 0 else (sig.getLast?.getD 0).toNat) = flag ∧ sig.take 64 = Sodium.sign H C seed m := by
    subst hsig
    have hS := hlen m
    by_cases h0 : flag = 0
    · simp [h0, hS, List.take_of_length_le]
    · simp [h0, hS, List.take_left', toNat_ofNat_of_lt hflag]
  obtain ⟨hl, hfl, htake⟩ := key
  rw [checkSig_true_iff H C mis cache allowed sig _ m hpk hl (hfl.symm ▸ hf) (hfl.symm ▸ hm) hfit, htake, hcomplete]

/-- C02.5a changes to excluded (or to absent-and-still-absent) fields are irrelevant: caches
    that agree on every sigfield whose flag bit is clear give the same message. -/
theorem message_excluded_irrelevant (flag : Nat) (c1 c2 : List (CKey × CVal))
    (h : ∀ i, flag / 2^(i-1) % 2 ≠ 1 → lookupC (sigfieldKey i) c1 = lookupC (sigfieldKey i) c2)
    (hp : ∀ i, (lookupC (sigfieldKey i) c1).isSome = (lookupC (sigfieldKey i) c2).isSome) :
    message flag c1 = message flag c2 := by
  unfold message
  suffices ∀ fuel i, msgFrom flag c1 fuel i = msgFrom flag c2 fuel i from this 8 1
  intro fuel
  induction fuel with
  | zero => intro i; rfl
  | succ f ih =>
    intro i
    simp only [msgFrom]
    by_cases hb : flag / 2^(i-1) % 2 = 1
    · -- an excluded field is skipped whether it is present or not
      cases lookupC (sigfieldKey i) c1 <;> cases lookupC (sigfieldKey i) c2 <;> simp only [hb, ↓reduceIte, ih]
    · rw [h i hb]
      cases lookupC (sigfieldKey i) c2 <;> simp only [hb, ↓reduceIte, ih]

/-- Non-vacuity: flag 0x02 excludes sigfield2 and keeps sigfield1. -/
example : message 2 [(sigfieldKey 1, .atom (.bytes [1])), (sigfieldKey 2, .atom (.bytes [2]))] = .ok [1] := by
  rfl

end TV.C02
