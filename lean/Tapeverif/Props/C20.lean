import Tapeverif.Lemmas.Exec
import Tapeverif.Lemmas.Codec
import Tapeverif.Lemmas.Fork
import Tapeverif.Model.Auth
import Tapeverif.Gen.Tables
/-! # C20 — unassigned opcodes are soft-fork-safe no-ops -/
namespace TV.C20

open Instr

variable (T : UInt8 → Op) (L : Limits)

/-! The first three theorems are table obligations, over the tables regenerated from /repo on this run. -/

/-- the implementation assigns exactly the codes 0 … 91, in order, with the names the model's
    dispatch uses the *positions* of (the names are checked for C11/C12) -/
theorem opcodes_are_0_to_91 : (Gen.opcodes.map (·.1)) = List.range opcodeCount := by decide +kernel

/-- every other byte value 92 … 255 is in the NOP table, named `NOP<code>`, and all NOP entries
    share the one `NOP` function -/
theorem nopcodes_are_92_to_255 :
    Gen.nopcodes = (List.range (256 - opcodeCount)).map (fun i => (i + opcodeCount, "NOP" ++ toString (i + opcodeCount)))
    ∧ Gen.nopIsNOP = true := by decide +kernel

/-- the source literal and the imported table agree (the translator read what is written) -/
theorem opcode_literal_matches_import : Gen.opcodesAst = Gen.opcodes.map (·.2) := by rfl

/-- every code ≥ 92 dispatches to NOP in the model -/
theorem instr_ge_92_is_nop (H : Hashes) (C : Curve) (cfg : Cfg) (c : Nat) (k : Op) (h : 92 ≤ c) :
    instr H C cfg c k = opNop k := by
  obtain ⟨n, rfl⟩ : ∃ n, c = n + 92 := ⟨c - 92, by omega⟩
  rfl   -- `n + 92` matches none of the 92 literal patterns of `instr`

theorem bytesToInt_single (b : UInt8) :
    bytesToInt [b] = some (if 128 ≤ b.toNat then (b.toNat : Int) - 256 else (b.toNat : Int)) := by
  rw [bytesToInt_cons]
  simp [natOfBytesBE]

/-- NOP with a negative count byte (≥ 0x80) is a script-execution error after reading exactly
    one operand byte; nothing else changes. -/
theorem nop_negative (n : Nat) (k : Op) (fr : Frame) (sh : Shared) (b : UInt8) (rest : Bytes)
    (hr : fr.rest = b :: rest) (hb : 128 ≤ b.toNat) :
    runOp T L (n+2) (opNop k) fr sh = .err (.user .see) sh := by
  unfold opNop
  rw [runOp_read T L _ 1 _ fr sh (by simp [hr])]
  simp only [hr, List.take_succ_cons, List.take_zero, bytesToInt_single, hb, ↓reduceIte]
  have hlt : b.toNat < 256 := b.toNat_lt
  have : ((b.toNat : Int) - 256) < 0 := by omega
  simp only [this, ↓reduceIte]
  exact runOp_fail T L n _ _ _

/-- NOP with count byte `b < 0x80` and at least `b` items on the stack: reads one byte,
    removes exactly `b` items, and has no other effect (cache, flags, definitions, counters
    untouched), then continues. -/
theorem nop_spec (n : Nat) (k : Op) (fr : Frame) (sh : Shared) (b : UInt8) (rest : Bytes)
    (items below : List Bytes)
    (hr : fr.rest = b :: rest) (hb : b.toNat < 128)
    (hs : sh.stack = items ++ below) (hl : items.length = b.toNat) :
    runOp T L (n + b.toNat + 1) (opNop k) fr sh =
      runOp T L n k { fr with rest := rest } { sh with stack := below } := by
  unfold opNop
  rw [runOp_read T L _ 1 _ fr sh (by simp [hr])]
  simp only [hr, List.take_succ_cons, List.take_zero, List.drop_succ_cons, List.drop_zero]
  have hb' : ¬ 128 ≤ b.toNat := by omega
  simp only [bytesToInt_single, hb', ↓reduceIte]
  have hnn : ¬ ((b.toNat : Int) < 0) := by omega
  simp only [hnn, ↓reduceIte, Int.toNat_natCast]
  rw [← hl]
  exact runOp_popN T L n _ items below (fun _ => k) sh hs

/-- A fork op written to the documented contract: it reads the count exactly as NOP does,
    removes that many items, inspects them with an arbitrary predicate `P`, and may fail.
    Its failure is modelled as the *uncatchable* `abort` outcome — this is the property's
    "every script that does not wrap that op in a TRY block": a failure that no TRY catches
    ends the whole run, exactly like `abort`. -/
def forkOp (P : List Bytes → Bool) (k : Op) : Op :=
  .read 1 fun b => match bytesToInt b with
    | some n => if n < 0 then .fail .see else popN n.toNat fun items => if P items then k else .abort
    | none => .fail .value

theorem popN_sim : ∀ (n : Nat) (k' k : List Bytes → Op), (∀ items, OpSim (k' items) (k items)) →
    OpSim (popN n k') (popN n k)
  | 0, _, _, h => h []
  | n+1, _, _, h => .pop _ _ fun x => popN_sim n _ _ fun r => h (x :: r)

theorem forkOp_sim_nop (P : List Bytes → Bool) : OpSim (forkOp P .done) (opNop .done) := by
  unfold forkOp opNop
  refine .read 1 _ _ fun b => ?_
  cases bytesToInt b with
  | none => exact .fail _
  | some n =>
    simp only
    split
    · exact .fail _
    · refine popN_sim _ _ _ fun items => ?_
      split
      · exact .done
      · exact .abort _

/-- the upgraded table: `T` with the fork op installed at code `c` -/
def forked (T : UInt8 → Op) (c : UInt8) (P : List Bytes → Bool) : UInt8 → Op :=
  fun c' => if c' = c then forkOp P .done else T c'

theorem forked_sim (c : UInt8) (P : List Bytes → Bool) (hc : T c = opNop .done) :
    ∀ c', OpSim (forked T c P c') (T c') := by
  intro c'
  unfold forked
  split
  · next h => subst h; rw [hc]; exact forkOp_sim_nop P
  · exact OpSim.refl _

theorem runAuthRest_sim (T' : UInt8 → Op) (hT : ∀ c, OpSim (T' c) (T c)) (fuel : Nat) :
    ∀ (scripts : List Bytes) (count : Nat) (sh : Shared),
      Sim (runAuthRest T' L fuel scripts count sh) (runAuthRest T L fuel scripts count sh)
  | [], _, _ => Or.inl rfl
  | s :: rest, count, sh =>
    Sim.bind ((sim T' T L hT fuel).2.2 (topFrame s count) { sh with returned := false })
      fun f s' => runAuthRest_sim T' hT fuel rest f.count s'

/-- **C20 soft-fork safety.** Let code `c` be a NOP in table `T`, and install at `c` any op that
    reads the count as NOP does, removes that many items, inspects them and may fail (failure
    not caught by a TRY). Then for **every** list of scripts, every cache, limits and fuel: if the
    upgraded VM authorizes, the VM without the fork authorizes too — the two runs are in fact
    identical up to the first failure of the new op. -/
theorem soft_fork_safe (c : UInt8) (P : List Bytes → Bool) (hc : T c = opNop .done)
    (fuel : Nat) (scripts : List Bytes) (cache : List (CKey × CVal))
    (h : runAuth (forked T c P) L fuel scripts cache = true) :
    runAuth T L fuel scripts cache = true := by
  unfold runAuth runAuthRes at *
  rcases runAuthRest_sim T L (forked T c P) (forked_sim T c P hc) fuel scripts 0 (initShared cache) with heq | ⟨sh2, hab⟩
  · rw [← heq]; exact h
  · rw [hab] at h; simp at h

/-- the concrete VM's NOP codes satisfy the hypothesis of `soft_fork_safe` -/
theorem instrTable_nop (H : Hashes) (C : Curve) (cfg : Cfg) (c : UInt8) (h : 92 ≤ c.toNat) :
    instrTable H C cfg c = opNop .done := by
  unfold instrTable
  exact instr_ge_92_is_nop H C cfg c.toNat .done h

/-- Non-vacuity: a fork that rejects (`P = false`) makes the upgraded VM refuse a list the old VM
    authorizes — the implication is not an equivalence, and the hypothesis is satisfiable. -/
example :
    runAuth (forked (fun c => if c = 1 then .push [0xff] .done else opNop .done) 200 (fun _ => true))
      ⟨8, 8, 8⟩ 20 [[200, 0, 1]] [] = true := by rfl

/-- Non-vacuity: NOP 200 with count 2 on a 3-item stack. -/
example : runOp (fun _ => .done) ⟨8, 8, 8⟩ 10 (opNop .done)
    { (default : Frame) with rest := [2, 7] } { (default : Shared) with stack := [[1], [2], [3]] }
    = .ok { (default : Frame) with rest := [7] } { (default : Shared) with stack := [[3]] } := by
  rfl

end TV.C20
