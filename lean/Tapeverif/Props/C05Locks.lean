import Tapeverif.Props.C05
/-!
# C05 — the taproot lock, script path that matches

`Props/C05.lean` has the key path and the mismatching script path of the lock
`push <root> taproot <flags>`. Here: a (script, key) pair that recomputes to the root makes the
lock evaluate the script on the remaining stack, and the lock ends with exactly the script's own
outcome — its final stack or its error.
-/
namespace TV.C05

variable (H : Hashes) (C : Curve)

/-- **C05, the lock, script path, a pair that recomputes to the root.** -/
theorem tapLock_scriptpath_match (cfg : Cfg) (hev : cfg.disallowEval = false) (root pubkey script : Bytes) (flags : Nat)
    (st : List Bytes) (sh : Shared) (count : Nat) (rL : Res)
    (hroot : root.length = 32) (hpk : pubkey.length = 32)
    (hrc : recompute H C pubkey script = .ok root)
    (hs : sh.stack = pubkey :: script :: st) (hr : sh.returned = false)
    (hscr : script.length ≤ cfg.lim.maxItemSize) (hne : script ≠ [])
    (h32 : 32 ≤ cfg.lim.maxItemSize) (hroom : st.length + 3 ≤ cfg.lim.maxItems) (hcnt : count < cfg.lim.callLimit)
    (hL : TSteps (instrTable H C cfg) cfg.lim (evalFrame script count (copyDict { sh with stack := st } 0).1)
            (copyDict { sh with stack := st } 0).2 rL) :
    Ends (instrTable H C cfg) cfg.lim (topFrame (tapLock root flags) count) sh
      (fun r => Res.summary r = Res.summary rL) :=
  Run.top 1 rfl hs hr (by slots) <| Run.pushKey hroot (by omega) <|
    Run.taprootMatch_last hev hroot hpk hrc hscr hne hcnt hL (summary_wrapEval _ _ _)

end TV.C05
