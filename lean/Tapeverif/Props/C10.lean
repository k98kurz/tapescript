import Tapeverif.Lemmas.Codec
import Tapeverif.Lemmas.BigStep
/-! # C10 — integer (and float bit-pattern) encodings are exact inverses

The round trip and its helper lemmas are in `Lemmas/Codec.lean`. Here: the property's clauses,
`decode_cons_spec` (what the head byte says of a decoded value) from which the range and sign clauses
follow, and the integer instructions executed symbolically. -/
namespace TV.C10

/-- C10.1 decoding the VM encoding of `n` gives `n` back, for every integer. -/
theorem decode_encode (z : Int) : bytesToInt (intToBytes z) = some z := TV.decode_encode z

/-- C10.3a decoding is total exactly on the non-empty strings. -/
theorem decode_total (b : Bytes) : (bytesToInt b).isSome = true ↔ b ≠ [] := by
  cases b with
  | nil => simp [bytesToInt]
  | cons hd tl => simp [bytesToInt_cons]

/-- what the head byte says about a decoded value: its top bit is the sign, with the range of `decode_range` -/
theorem decode_cons_spec {hd : UInt8} {tl : Bytes} {z : Int} (h : bytesToInt (hd :: tl) = some z) :
    (128 ≤ hd.toNat ↔ z < 0) ∧
    -((128 * 256 ^ tl.length : Nat) : Int) ≤ z ∧ z < ((128 * 256 ^ tl.length : Nat) : Int) := by
  rw [bytesToInt_cons, Option.some.injEq] at h
  have hlt := natOfBytesBE_lt tl
  have h128 := mul_add_lt_mul_iff (h := hd.toNat) (c := 128) hlt
  have h256 := (mul_add_lt_mul_iff (c := 256) hlt).2 hd.toNat_lt
  generalize hd.toNat * 256 ^ tl.length + natOfBytesBE tl = n at *
  split at h <;> omega

/-- Range of a decoded value: `len` bytes hold exactly `[-2^(8 len-1), 2^(8 len-1))`,
    written with `128 * 256^(len-1)`. -/
theorem decode_range (hd : UInt8) (tl : Bytes) (z : Int) (h : bytesToInt (hd :: tl) = some z) :
    -((128 * 256 ^ tl.length : Nat) : Int) ≤ z ∧ z < ((128 * 256 ^ tl.length : Nat) : Int) :=
  (decode_cons_spec h).2

/-- C10.2a the encoding is never empty. -/
theorem encode_ne_nil (z : Int) : intToBytes z ≠ [] := intToBytes_ne_nil z

/-- C10.2b the top bit of the encoding matches the sign of `n`. -/
theorem encode_sign (z : Int) :
    ∃ hd tl, intToBytes z = hd :: tl ∧ (128 ≤ hd.toNat ↔ z < 0) := by
  have hdec := decode_encode z
  match hb : intToBytes z with
  | [] => exact absurd hb (encode_ne_nil z)
  | hd :: tl => exact ⟨hd, tl, rfl, (decode_cons_spec (hb ▸ hdec)).1⟩

/-- C10.2c minimality: no byte string that decodes to `z` is shorter than `intToBytes z`;
    hence an exact integer result that fits the item limit in *some* encoding fits in the
    VM's own. -/
theorem encode_minimal (b : Bytes) (z : Int) (h : bytesToInt b = some z) :
    (intToBytes z).length ≤ b.length := by
  cases b with
  | nil => simp [bytesToInt] at h
  | cons hd tl =>
    obtain ⟨hlo, hhi⟩ := decode_range hd tl z h
    rw [← top_bit] at hlo hhi
    exact intToBytes_length_le (Nat.succ_pos _) hlo hhi

/-- Non-vacuity: concrete encodings on both sides of byte boundaries. -/
example : intToBytes (-128) = [0x80] := by decide
example : intToBytes 128 = [0x00, 0x80] := by decide
example : intToBytes (-129) = [0xff, 0x7f] := by decide
example : intToBytes (2^63 - 1) = [0x7f, 0xff, 0xff, 0xff, 0xff, 0xff, 0xff, 0xff] := by decide
example : bytesToInt [0x00, 0x05] = some 5 ∧ (intToBytes 5).length ≤ 2 := by decide

/-! ### "integer instructions compute exact results at any magnitude that fits the item limit"

The instructions are executed symbolically on the VM model (big-step): operands are *any* items that
decode to integers `a`, `b`, … (unbounded `Int`), the result item is the minimal encoding of the exact
result, and by `decode_encode` it decodes back to exactly that result. The only resource hypothesis is
that the result item fits `stack_max_item_size`. -/
section instructions
open Instr

variable {T : UInt8 → Op} {L : Limits}

/-- **`OP_ADD_INTS n` is exact**: it replaces the `n` top items, which decode to `zs`, by the minimal
    encoding of their (unbounded) sum — which by `decode_encode` decodes back to exactly that sum. -/
theorem addInts_exact (k : Op) (fr : Frame) (sh : Shared) (n : Nat) (rest : Bytes) (bs : List Bytes) (zs : List Int)
    (st : List Bytes) (r : Res) (hn : n < 256) (hrest : fr.rest = UInt8.ofNat n :: rest)
    (hl : bs.length = n) (hf : bs.map bytesToInt = zs.map some) (hs : sh.stack = bs ++ st)
    (hsz : (intToBytes (zs.foldl (· + ·) 0)).length ≤ L.maxItemSize) (hroom : st.length < L.maxItems)
    (h : Steps T L k { fr with rest := rest } { sh with stack := intToBytes (zs.foldl (· + ·) 0) :: st } r) :
    Steps T L (opAddInts k) fr sh r :=
  Steps.readU1 hn hrest (hl ▸ Steps.foldInts _ hf hs (Steps.pushInt hsz hroom h))

theorem sum_decodes (zs : List Int) : bytesToInt (intToBytes (zs.foldl (· + ·) 0)) = some (zs.foldl (· + ·) 0) := decode_encode _

/-- **`OP_SUBTRACT_INTS n`**: the top item minus the following `n − 1` items, exactly -/
theorem subInts_exact (k : Op) (fr : Frame) (sh : Shared) (n : Nat) (rest : Bytes) (b0 : Bytes) (z0 : Int) (bs : List Bytes) (zs : List Int)
    (st : List Bytes) (r : Res) (hn : n < 256) (hrest : fr.rest = UInt8.ofNat n :: rest)
    (hb0 : bytesToInt b0 = some z0) (hl : bs.length = n - 1) (hf : bs.map bytesToInt = zs.map some)
    (hs : sh.stack = b0 :: (bs ++ st))
    (hsz : (intToBytes (zs.foldl (· - ·) z0)).length ≤ L.maxItemSize) (hroom : st.length < L.maxItems)
    (h : Steps T L k { fr with rest := rest } { sh with stack := intToBytes (zs.foldl (· - ·) z0) :: st } r) :
    Steps T L (opSubInts k) fr sh r :=
  Steps.readU1 hn hrest (Steps.popInt hb0 hs (hl ▸ Steps.foldInts _ hf rfl (Steps.pushInt hsz hroom h)))

/-- **`OP_MULT_INTS n`**: the product, exactly -/
theorem multInts_exact (k : Op) (fr : Frame) (sh : Shared) (n : Nat) (rest : Bytes) (b0 : Bytes) (z0 : Int) (bs : List Bytes) (zs : List Int)
    (st : List Bytes) (r : Res) (hn : n < 256) (hrest : fr.rest = UInt8.ofNat n :: rest)
    (hb0 : bytesToInt b0 = some z0) (hl : bs.length = n - 1) (hf : bs.map bytesToInt = zs.map some)
    (hs : sh.stack = b0 :: (bs ++ st))
    (hsz : (intToBytes (zs.foldl (· * ·) z0)).length ≤ L.maxItemSize) (hroom : st.length < L.maxItems)
    (h : Steps T L k { fr with rest := rest } { sh with stack := intToBytes (zs.foldl (· * ·) z0) :: st } r) :
    Steps T L (opMultInts k) fr sh r :=
  Steps.readU1 hn hrest (Steps.popInt hb0 hs (hl ▸ Steps.foldInts _ hf rfl (Steps.pushInt hsz hroom h)))

/-- **`OP_DIV_INTS` / `OP_MOD_INTS`**: floor division and its remainder on the decoded (unbounded)
    integers — top item divided by the second — or `ZeroDivisionError` when the divisor is 0 -/
theorem divInts_exact (k : Op) (fr : Frame) (sh : Shared) (ba bb : Bytes) (a b : Int) (st : List Bytes) (r : Res)
    (ha : bytesToInt ba = some a) (hb : bytesToInt bb = some b) (hs : sh.stack = ba :: bb :: st) (hb0 : b ≠ 0)
    (hsz : (intToBytes (Int.fdiv a b)).length ≤ L.maxItemSize) (hroom : st.length < L.maxItems)
    (h : Steps T L k fr { sh with stack := intToBytes (Int.fdiv a b) :: st } r) :
    Steps T L (opDivInts k) fr sh r :=
  Steps.popInt ha hs (Steps.popInt hb rfl (by rw [divOrFail, if_neg hb0]; exact Steps.pushInt hsz hroom h))

theorem divInts_zero (k : Op) (fr : Frame) (sh : Shared) (ba bb : Bytes) (a : Int) (st : List Bytes)
    (ha : bytesToInt ba = some a) (hb : bytesToInt bb = some 0) (hs : sh.stack = ba :: bb :: st) :
    Steps T L (opDivInts k) fr sh (.err (.user .zeroDiv) { sh with stack := st }) :=
  Steps.popInt ha hs (Steps.popInt hb rfl (Steps.fail _ _ _))

theorem modInts_exact (k : Op) (fr : Frame) (sh : Shared) (ba bb : Bytes) (a b : Int) (st : List Bytes) (r : Res)
    (ha : bytesToInt ba = some a) (hb : bytesToInt bb = some b) (hs : sh.stack = ba :: bb :: st) (hb0 : b ≠ 0)
    (hsz : (intToBytes (Int.fmod a b)).length ≤ L.maxItemSize) (hroom : st.length < L.maxItems)
    (h : Steps T L k fr { sh with stack := intToBytes (Int.fmod a b) :: st } r) :
    Steps T L (opModInts k) fr sh r :=
  Steps.popInt ha hs (Steps.popInt hb rfl (by rw [divOrFail, if_neg hb0]; exact Steps.pushInt hsz hroom h))

/-- **`OP_LESS` / `OP_LESS_OR_EQUAL`** compare the decoded integers: top item `<` / `≤` second item -/
theorem less_exact (k : Op) (fr : Frame) (sh : Shared) (ba bb : Bytes) (a b : Int) (st : List Bytes) (r : Res)
    (ha : bytesToInt ba = some a) (hb : bytesToInt bb = some b) (hs : sh.stack = ba :: bb :: st)
    (h1 : 1 ≤ L.maxItemSize) (hroom : st.length < L.maxItems)
    (h : Steps T L k fr { sh with stack := boolBytes (decide (a < b)) :: st } r) :
    Steps T L (opLess k) fr sh r :=
  Steps.popInt ha hs (Steps.popInt hb rfl (Steps.pushBool h1 hroom h))

theorem leq_exact (k : Op) (fr : Frame) (sh : Shared) (ba bb : Bytes) (a b : Int) (st : List Bytes) (r : Res)
    (ha : bytesToInt ba = some a) (hb : bytesToInt bb = some b) (hs : sh.stack = ba :: bb :: st)
    (h1 : 1 ≤ L.maxItemSize) (hroom : st.length < L.maxItems)
    (h : Steps T L k fr { sh with stack := boolBytes (decide (a ≤ b)) :: st } r) :
    Steps T L (opLeq k) fr sh r :=
  Steps.popInt ha hs (Steps.popInt hb rfl (Steps.pushBool h1 hroom h))

/-- Python's `//` and `%` are floor division: the identity `a = (a // b)·b + a % b` and the sign
    of the remainder follow the divisor (stated for the model's `Int.fdiv` / `Int.fmod`) -/
theorem fdiv_fmod (a b : Int) : Int.fdiv a b * b + Int.fmod a b = a := by
  rw [Int.mul_comm]; exact Int.mul_fdiv_add_fmod a b

end instructions

end TV.C10
