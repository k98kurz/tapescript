import Tapeverif.Lemmas.Algebra
import Tapeverif.Lemmas.RunRel
/-! # C15 — hash- and point-time-locked contracts

What is proved here for all inputs: (1) the deadline a refund arm pushes is read back by
`OP_CHECK_TIMESTAMP_VERIFY` as exactly `created + timeout` for every non-negative deadline, so with
C16.1 the refund arm's time condition is exactly "t ≥ deadline and not ahead of the verifier
clock by the slack or more"; a negative deadline is read as a number ≥ 2^(8·len−1) (never
reached by an in-range timestamp); (2) the PTLC claim key algebra: the witness scalar
`(x + t) mod L` is the secret key of the lock's claim point `X + T`, and of no lock made for a
different tweak point; (3) the locks themselves, executed symbolically on the VM model: the HTLC
locks of both layouts, for SHA-256 and for SHAKE-256, and the PTLC lock (with or without a tweak
point, `ptlcLock_bytes`) end with exactly `htlcSpec` / `htlc2Spec` / `armsSpec`, and the
`_accepts_iff` theorems say when that is the verdict `[ff]`. The builders are model definitions
(`Model/Tools.lean`) compared with `tools.py` byte for byte on every run. -/
namespace TV.C15

open TV.Algebra Tools

/-- the refund arm's constraint bytes read back (unsigned, as CHECK_TIMESTAMP reads them) as
    the deadline, for every non-negative deadline -/
theorem deadline_readback (d : Int) (h : 0 ≤ d) : (natOfBytesBE (intToBytes d) : Int) = d := by
  have hde := TV.decode_encode d
  rw [bytesToInt_eq (intToBytes_ne_nil d), Option.some.injEq] at hde
  have hlt := natOfBytesBE_lt (intToBytes d)
  rw [pow256] at hlt
  split at hde <;> omega

/-- a negative deadline is read back as a number at least 2^(8·len − 1): with C16.1 the refund
    path then needs a timestamp that large -/
theorem negative_deadline_readback (d : Int) (h : d < 0) :
    2 ^ ((intToBytes d).length * 8 - 1) ≤ natOfBytesBE (intToBytes d) := by
  have hde := TV.decode_encode d
  rw [bytesToInt_eq (intToBytes_ne_nil d), Option.some.injEq] at hde
  split at hde <;> omega

/-- the refund arm's time condition, by C16.1 and `deadline_readback`:
    accepted ⇔ `t ≥ deadline ∧ (thr ≤ 0 ∨ t − now < thr)` -/
theorem refund_time_condition (t now thr d : Int) (h : 0 ≤ d) :
    C16.tsAccept t now thr (intToBytes d) = decide (d ≤ t ∧ (thr ≤ 0 ∨ t - now < thr)) := by
  unfold C16.tsAccept
  rw [deadline_readback d h]

variable {P : Type} [AddCommGroup P] (G : P) (L : ℕ) (hL : L • G = 0)

include hL in
/-- PTLC claim: the witness signs with scalar `(x + t) mod L`, whose public point is the
    lock's claim key `X + T` -/
theorem ptlc_claim_scalar (x t : ℕ) : ((x + t) % L) • G = x • G + t • G :=
  taproot_keyspend_scalar G L hL x t

include hL in
/-- … and is the secret of no claim key made with a different tweak point -/
theorem ptlc_claim_scalar_wrong_tweak (x t : ℕ) (T' : P) (hT : t • G ≠ T') :
    ((x + t) % L) • G ≠ x • G + T' := by
  rw [ptlc_claim_scalar G L hL]
  intro h
  exact hT (add_left_cancel h)

include hL in
/-- without the tweak scalar the receiver's own key does not open a tweaked lock (`T ≠ 0`) -/
theorem ptlc_receiver_alone_insufficient (x : ℕ) (T : P) (hT : T ≠ 0) :
    (x % L) • G ≠ x • G + T := untweaked_ne G L hL x T hT

/-- Non-vacuity: the deadline boundary — with deadline 1010 a refund at t = 1010 passes the time
    condition and t = 1009 does not. -/
example : C16.tsAccept 1010 1000 60 (intToBytes 1010) = true ∧
          C16.tsAccept 1009 1000 60 (intToBytes 1010) = false := by decide

example : (natOfBytesBE (intToBytes (2 ^ 31)) : Int) = 2 ^ 31 := deadline_readback _ (by decide)

section htlc
variable (H : Hashes) (C : Curve)

/-- the outcome of the two-armed tail `if <sel> { push <claim key> } else { push <deadline> check_timestamp_verify
    push <refund key> } check_sig <flags>` shared by the HTLC and PTLC locks, as a function of its inputs -/
def armsSpec (cfg : Cfg) (cache : List (CKey × CVal)) (sel : Bool) (claim refund sig : Bytes) (deadline : Int) (flags : Nat)
    (t thr : Int) (st : List Bytes) : Except Err (List Bytes) :=
  if sel = true then
    match SigPure.checkSig H C cfg.lim.maxItemSize cache flags sig claim with
    | .ok b => .ok (boolBytes b :: st)
    | .error e => .error (.user e)
  else if C16.tsAccept t cfg.now thr (intToBytes deadline) = false then .error (.user .see)
  else
    match SigPure.checkSig H C cfg.lim.maxItemSize cache flags sig refund with
    | .ok b => .ok (boolBytes b :: st)
    | .error e => .error (.user e)

def armsTail (claim refund : Bytes) (deadline : Int) (flags : Nat) : Bytes :=
  ifElse (pushB claim) (refundArm deadline refund) ++ CHECK_SIG flags

section arms
variable {H : Hashes} {C : Curve} {cfg : Cfg} {fr : Frame} {sh : Shared} {k : Nat} {st : List Bytes} {wr : Written}

/-- the two-armed tail closing a tape, in any frame long enough to hold it; `sel` is the selector item's truth value,
    whether the witness left the item or an EQUAL did -/
theorem Run.arms (hno : cfg.sigExts = []) {c claim refund sig : Bytes} {sel : Bool} {deadline : Int} {flags : Nat} {t thr : Int}
    (hsel : truthy c = sel) (hlen0 : (armsTail claim refund deadline flags).length ≤ fr.len0)
    (hrc : claim.length = 32) (hrf : refund.length = 32) (hdl : (intToBytes deadline).length ≤ 64) (hfl : flags < 256)
    (hclk : Clock cfg sh.cache t thr) (hsz : 64 ≤ cfg.lim.maxItemSize) :
    Run H C cfg fr sh (k + 1) (armsTail claim refund deadline flags) (c :: sig :: st) wr
      (fun r => Res.summary r = armsSpec H C cfg sh.cache sel claim refund sig deadline flags t thr st) := by
  subst hsel
  have hla := pushB_length_le claim
  have hlr : (refundArm deadline refund).length ≤ 103 := by
    have h1 := pushB_length_le (intToBytes deadline)
    have h2 := pushB_length_le refund
    simp only [refundArm, pushInt_eq, List.length_append, opc, List.length_cons, List.length_nil]
    omega
  have htl : (armsTail claim refund deadline flags).length = (pushB claim).length + (refundArm deadline refund).length + 7 := by
    simp only [armsTail, List.length_append, ifElse_length, CHECK_SIG, opc, List.length_cons, List.length_nil]
  refine Run.ifElse (by omega) (by omega) (by split <;> omega) ?_
  unfold armsSpec
  cases truthy c
  · -- refund arm: the deadline must have passed
    simp only [Bool.false_eq_true, ↓reduceIte, refundArm, List.append_assoc]
    refine Run.pushInt (by omega) (by omega) <| Run.ctsv hclk (intToBytes_ne_nil _) (by omega)
      (fun hacc => ?_) (fun hacc => After.err (by rw [Res.summary_err, if_pos hacc]))
    rw [if_neg (ne_false_of_eq_true hacc)]
    exact Run.last <| Run.pushKey hrf (by omega) <| Run.after <|
      Run.checkSig_last hno hfl (by omega) fun r h => h
  · -- claim arm
    simp only [↓reduceIte]
    exact Run.last <| Run.pushKey hrc (by omega) <| Run.after <|
      Run.checkSig_last hno hfl (by omega) fun r h => h

end arms

/-- the two-armed tail, run from a stack `c :: sig :: st` -/
theorem armsTail_run (cfg : Cfg) (hno : cfg.sigExts = []) (c claim refund sig : Bytes) (deadline : Int)
    (flags : Nat) (st : List Bytes) (sh : Shared) (fr : Frame) (t thr : Int)
    (hfrest : fr.rest = armsTail claim refund deadline flags)
    (hcap : fr.len0 < fr.cap) (hlen0 : (armsTail claim refund deadline flags).length ≤ fr.len0)
    (hrc : claim.length = 32) (hrf : refund.length = 32)
    (hdl : (intToBytes deadline).length ≤ 64) (hfl : flags < 256)
    (hs : sh.stack = c :: sig :: st) (hr : sh.returned = false)
    (ht : lookupC C16.tsKey sh.cache = some (.atom (.int t))) (hthr : cfg.tsThreshold = some thr)
    (hsz : 64 ≤ cfg.lim.maxItemSize) (hroom : st.length + 3 ≤ cfg.lim.maxItems) :
    Ends (instrTable H C cfg) cfg.lim fr sh
      (fun r => Res.summary r = armsSpec H C cfg sh.cache (truthy c) claim refund sig deadline flags t thr st) :=
  Run.ends 1 hfrest hs hcap hr (by slots) (Run.arms hno rfl hlen0 hrc hrf hdl hfl ⟨ht, hthr⟩ hsz)

/-- the acceptance condition of an HTLC lock (first layout): `hx` is the hash of the supplied
    preimage item; the claim arm is selected exactly when it equals the digest -/
def htlcSpec (cfg : Cfg) (cache : List (CKey × CVal)) (hx digest receiver refund sig : Bytes) (deadline : Int) (flags : Nat)
    (t thr : Int) (st : List Bytes) : Except Err (List Bytes) :=
  armsSpec H C cfg cache (digest == hx) receiver refund sig deadline flags t thr st

theorem htlcLock_eq (hashOp digest receiver refund : Bytes) (deadline : Int) (flags : Nat) :
    htlcLock hashOp digest receiver refund deadline flags =
      hashOp ++ (pushB digest ++ (EQUAL ++ armsTail receiver refund deadline flags)) := by
  simp only [htlcLock, armsTail, List.append_assoc]

/-- deadlines below 2^62 (any realistic UNIX time plus timeout) encode in at most 9 bytes -/
theorem deadline_len (d : Int) (h0 : 0 ≤ d) (h1 : d < 2 ^ 62) : (intToBytes d).length ≤ 64 :=
  have := two_pow_mono (show 62 ≤ 64 * 8 - 1 by decide)
  intToBytes_length_le (by decide) (by omega) (by omega)

/-- **the HTLC lock (first layout) for any hash instruction**, given by its rule `hop`: it replaces the top item `x`
    by `hx` -/
theorem htlcLock_run (cfg : Cfg) (hno : cfg.sigExts = []) (hashOp x hx digest receiver refund sig : Bytes) (deadline : Int)
    (flags : Nat) (st : List Bytes) (sh : Shared) (count : Nat) (t thr : Int)
    (hop : ∀ {fr k rest P}, Run H C cfg fr sh k rest (hx :: sig :: st) [] P → Run H C cfg fr sh k (hashOp ++ rest) (x :: sig :: st) [] P)
    (hd0 : 0 < digest.length) (hd1 : digest.length ≤ 64) (hrc : receiver.length = 32) (hrf : refund.length = 32)
    (hdl0 : 0 ≤ deadline) (hdl1 : deadline < 2 ^ 62) (hfl : flags < 256)
    (hs : sh.stack = x :: sig :: st) (hr : sh.returned = false)
    (ht : lookupC C16.tsKey sh.cache = some (.atom (.int t))) (hthr : cfg.tsThreshold = some thr)
    (hsz : 64 ≤ cfg.lim.maxItemSize) (hroom : st.length + 4 ≤ cfg.lim.maxItems) :
    Ends (instrTable H C cfg) cfg.lim (topFrame (htlcLock hashOp digest receiver refund deadline flags) count) sh
      (fun r => Res.summary r = htlcSpec H C cfg sh.cache hx digest receiver refund sig deadline flags t thr st) :=
  Run.top 2 (htlcLock_eq ..) hs hr (by slots) <| hop <| Run.pushB hd0 (by omega) (by omega) <| Run.equal (by omega) <|
    Run.arms hno (truthy_boolBytes _) (by simp only [topFrame, htlcLock_eq, List.length_append]; omega)
      hrc hrf (deadline_len deadline hdl0 hdl1) hfl ⟨ht, hthr⟩ hsz

/-- **C15, SHA-256 HTLC (first layout): exact outcome.** -/
theorem htlcSha256Lock_run (cfg : Cfg) (hno : cfg.sigExts = []) (hH : ∀ x, (H.sha256 x).length = 32)
    (x digest receiver refund sig : Bytes) (deadline : Int) (flags : Nat) (st : List Bytes) (sh : Shared) (count : Nat) (t thr : Int)
    (hd0 : 0 < digest.length) (hd1 : digest.length ≤ 64) (hrc : receiver.length = 32) (hrf : refund.length = 32)
    (hdl0 : 0 ≤ deadline) (hdl1 : deadline < 2 ^ 62) (hfl : flags < 256)
    (hs : sh.stack = x :: sig :: st) (hr : sh.returned = false)
    (ht : lookupC C16.tsKey sh.cache = some (.atom (.int t))) (hthr : cfg.tsThreshold = some thr)
    (hsz : 64 ≤ cfg.lim.maxItemSize) (hroom : st.length + 4 ≤ cfg.lim.maxItems) :
    Ends (instrTable H C cfg) cfg.lim (topFrame (htlcLock SHA256 digest receiver refund deadline flags) count) sh
      (fun r => Res.summary r = htlcSpec H C cfg sh.cache (H.sha256 x) digest receiver refund sig deadline flags t thr st) :=
  htlcLock_run H C cfg hno SHA256 x (H.sha256 x) digest receiver refund sig deadline flags st sh count t thr
    (Run.sha256 (by rw [hH]; omega)) hd0 hd1 hrc hrf hdl0 hdl1 hfl hs hr ht hthr hsz hroom

/-- **C15, SHAKE-256 HTLC (first layout): exact outcome.** -/
theorem htlcShake256Lock_run (cfg : Cfg) (hno : cfg.sigExts = []) (n : Nat) (hn : n ≤ 64) (hH : ∀ x, (H.shake256 x n).length = n)
    (x digest receiver refund sig : Bytes) (deadline : Int) (flags : Nat) (st : List Bytes) (sh : Shared) (count : Nat) (t thr : Int)
    (hd0 : 0 < digest.length) (hd1 : digest.length ≤ 64) (hrc : receiver.length = 32) (hrf : refund.length = 32)
    (hdl0 : 0 ≤ deadline) (hdl1 : deadline < 2 ^ 62) (hfl : flags < 256)
    (hs : sh.stack = x :: sig :: st) (hr : sh.returned = false)
    (ht : lookupC C16.tsKey sh.cache = some (.atom (.int t))) (hthr : cfg.tsThreshold = some thr)
    (hsz : 64 ≤ cfg.lim.maxItemSize) (hroom : st.length + 4 ≤ cfg.lim.maxItems) :
    Ends (instrTable H C cfg) cfg.lim (topFrame (htlcLock (SHAKE256 n) digest receiver refund deadline flags) count) sh
      (fun r => Res.summary r = htlcSpec H C cfg sh.cache (H.shake256 x n) digest receiver refund sig deadline flags t thr st) :=
  htlcLock_run H C cfg hno (SHAKE256 n) x (H.shake256 x n) digest receiver refund sig deadline flags st sh count t thr
    (Run.shake256 (by omega) (by rw [hH]; omega)) hd0 hd1 hrc hrf hdl0 hdl1 hfl hs hr ht hthr hsz hroom

/-- **C15, the two-armed tail: claim and refund paths are exact.** The outcome `armsSpec` is the verdict `[ff]`
    exactly on the claim path with a C02-valid signature under the claim key, or on the refund path once `t ≥ deadline` (within the slack) with a
    C02-valid signature under the refund key -/
theorem armsSpec_accepts_iff (cfg : Cfg) (cache : List (CKey × CVal)) (sel : Bool) (claim refund sig : Bytes) (deadline : Int)
    (flags : Nat) (t thr : Int) (hdl0 : 0 ≤ deadline) :
    armsSpec H C cfg cache sel claim refund sig deadline flags t thr [] = .ok [[0xff]] ↔
      ((sel = true ∧ SigPure.checkSig H C cfg.lim.maxItemSize cache flags sig claim = .ok true) ∨
       (sel = false ∧ deadline ≤ t ∧ (thr ≤ 0 ∨ t - cfg.now < thr) ∧
          SigPure.checkSig H C cfg.lim.maxItemSize cache flags sig refund = .ok true)) := by
  unfold armsSpec
  rw [refund_time_condition t cfg.now thr deadline hdl0, ite_eq_iff]
  simp only [error_ite_eq_ok, decide_eq_false_iff_not, not_not, Bool.not_eq_true, and_assoc]
  exact or_congr (and_congr_right fun _ => sigOutcome_accepts _)
    (and_congr_right fun _ => and_congr_right fun _ => and_congr_right fun _ => sigOutcome_accepts _)

/-- **C15, HTLC claim and refund paths are exact.** The outcome `htlcSpec` is the verdict `[ff]`
    exactly when: the supplied item hashes to the digest and the signature passes C02 under the
    receiver key (at any time); or it does not hash to the digest, `t ≥ deadline`, `t` is not ahead
    of the clock by the slack or more, and the signature passes C02 under the refund key. -/
theorem htlcSpec_accepts_iff (cfg : Cfg) (cache : List (CKey × CVal)) (hx digest receiver refund sig : Bytes) (deadline : Int)
    (flags : Nat) (t thr : Int) (hdl0 : 0 ≤ deadline) :
    htlcSpec H C cfg cache hx digest receiver refund sig deadline flags t thr [] = .ok [[0xff]] ↔
      ((digest = hx ∧ SigPure.checkSig H C cfg.lim.maxItemSize cache flags sig receiver = .ok true) ∨
       (digest ≠ hx ∧ deadline ≤ t ∧ (thr ≤ 0 ∨ t - cfg.now < thr) ∧
          SigPure.checkSig H C cfg.lim.maxItemSize cache flags sig refund = .ok true)) := by
  rw [htlcSpec, armsSpec_accepts_iff H C cfg cache _ receiver refund sig deadline flags t thr hdl0]
  simp only [beq_iff_eq, beq_eq_false_iff_ne, ne_eq]

/-- the bytes of `make_ptlc_lock` once the claim key is known -/
theorem ptlcLock_bytes (receiver refund : Bytes) (tweak : Option Bytes) (deadline : Int) (flags : Nat) (claim : Bytes)
    (hclaim : (match tweak with | some T => Sodium.aggregatePoints C [receiver, T] | none => pure receiver) = .ok claim) :
    ptlcLock C receiver refund tweak deadline flags = .ok (armsTail claim refund deadline flags) := by
  cases tweak with
  | none =>
    have : receiver = claim := by injection hclaim
    subst this
    rfl
  | some T =>
    have h : Sodium.aggregatePoints C [receiver, T] = .ok claim := hclaim
    unfold ptlcLock armsTail
    simp only [h]
    rfl

/-- **C15, PTLC lock: exact outcome.** With the claim key `claim` (the receiver key, or
    `receiver + T` when a tweak point is given — `ptlcLock_bytes`), selector item `c` and signature
    `sig` left by the witness: a true selector ends with the C02 verdict of `sig` under the claim
    key (at any time); a false one ends in an error unless `t ≥ deadline` within the clock slack,
    and then with the C02 verdict under the refund key. -/
theorem ptlcLock_run (cfg : Cfg) (hno : cfg.sigExts = []) (c claim refund sig : Bytes) (deadline : Int)
    (flags : Nat) (st : List Bytes) (sh : Shared) (count : Nat) (t thr : Int)
    (hrc : claim.length = 32) (hrf : refund.length = 32)
    (hdl0 : 0 ≤ deadline) (hdl1 : deadline < 2 ^ 62) (hfl : flags < 256)
    (hs : sh.stack = c :: sig :: st) (hr : sh.returned = false)
    (ht : lookupC C16.tsKey sh.cache = some (.atom (.int t))) (hthr : cfg.tsThreshold = some thr)
    (hsz : 64 ≤ cfg.lim.maxItemSize) (hroom : st.length + 3 ≤ cfg.lim.maxItems) :
    Ends (instrTable H C cfg) cfg.lim (topFrame (armsTail claim refund deadline flags) count) sh
      (fun r => Res.summary r = armsSpec H C cfg sh.cache (truthy c) claim refund sig deadline flags t thr st) := by
  unfold topFrame
  exact armsTail_run H C cfg hno c claim refund sig deadline flags st sh _ t thr rfl (by simp) (by simp)
    hrc hrf (deadline_len deadline hdl0 hdl1) hfl hs hr ht hthr hsz hroom

/-- outcome of the second HTLC layout (keys committed by their SHAKE-256 hashes): `hx` is the
    hash of the supplied preimage item, `key` the public key the witness supplies -/
def htlc2Spec (cfg : Cfg) (cache : List (CKey × CVal)) (hs : Nat) (hx digest receiver refund key sig : Bytes)
    (deadline : Int) (flags : Nat) (t thr : Int) (st : List Bytes) : Except Err (List Bytes) :=
  if (digest == hx) = true then
    if H.shake256 receiver hs = H.shake256 key hs then
      match SigPure.checkSig H C cfg.lim.maxItemSize cache flags sig key with
      | .ok b => .ok (boolBytes b :: st)
      | .error e => .error (.user e)
    else .error (.user .see)
  else if C16.tsAccept t cfg.now thr (intToBytes deadline) = false then .error (.user .see)
  else if H.shake256 refund hs = H.shake256 key hs then
    match SigPure.checkSig H C cfg.lim.maxItemSize cache flags sig key with
    | .ok b => .ok (boolBytes b :: st)
    | .error e => .error (.user e)
  else .error (.user .see)

def claim2 (hs : Nat) (receiver : Bytes) : Bytes := DUP ++ (SHAKE256 hs ++ pushB (H.shake256 receiver hs))
def refund2 (hs : Nat) (refund : Bytes) (deadline : Int) : Bytes :=
  pushB (intToBytes deadline) ++ (opc CTSV ++ (DUP ++ (SHAKE256 hs ++ pushB (H.shake256 refund hs))))

def htlc2Tail (hs : Nat) (digest receiver refund : Bytes) (deadline : Int) (flags : Nat) : Bytes :=
  pushB digest ++ (EQUAL ++ (ifElse (claim2 H hs receiver) (refund2 H hs refund deadline) ++ (EQUAL_VERIFY ++ CHECK_SIG flags)))

theorem htlc2Lock_bytes (hashOp digest receiver refund : Bytes) (hs : Nat) (deadline : Int) (flags : Nat) :
    htlc2Lock H hashOp digest receiver refund hs deadline flags = hashOp ++ htlc2Tail H hs digest receiver refund deadline flags := by
  simp only [htlc2Lock, htlc2Tail, claim2, refund2, pushInt_eq, List.append_assoc]

/-- the second-layout lock after its hash instruction, run from a stack `hx :: key :: sig :: st` -/
theorem htlc2Tail_run (cfg : Cfg) (hno : cfg.sigExts = []) (hs : Nat) (hhs : hs < 256) (hhs0 : 0 < hs) (hhs1 : hs ≤ 64)
    (hH : ∀ x, (H.shake256 x hs).length = hs)
    (hx digest receiver refund key sig : Bytes) (deadline : Int)
    (flags : Nat) (st : List Bytes) (sh : Shared) (fr : Frame) (t thr : Int)
    (hfrest : fr.rest = htlc2Tail H hs digest receiver refund deadline flags)
    (hcap : fr.len0 < fr.cap) (hlen0 : (htlc2Tail H hs digest receiver refund deadline flags).length ≤ fr.len0)
    (hd0 : 0 < digest.length) (hd1 : digest.length ≤ 64) (hkey : key.length ≤ 64)
    (hdl : (intToBytes deadline).length ≤ 64) (hfl : flags < 256)
    (hstk : sh.stack = hx :: key :: sig :: st) (hr : sh.returned = false)
    (ht : lookupC C16.tsKey sh.cache = some (.atom (.int t))) (hthr : cfg.tsThreshold = some thr)
    (hsz : 64 ≤ cfg.lim.maxItemSize) (hroom : st.length + 6 ≤ cfg.lim.maxItems) :
    Ends (instrTable H C cfg) cfg.lim fr sh
      (fun r => Res.summary r = htlc2Spec H C cfg sh.cache hs hx digest receiver refund key sig deadline flags t thr st) := by
  have hka := pushB_length_le (H.shake256 receiver hs)
  have hkb := pushB_length_le (H.shake256 refund hs)
  have hkd := pushB_length_le (intToBytes deadline)
  have hla : (claim2 H hs receiver).length ≤ 70 := by
    simp only [claim2, DUP, SHAKE256, opc, List.length_append, List.length_cons, List.length_nil]
    rw [hH] at hka; omega
  have hlr : (refund2 H hs refund deadline).length ≤ 138 := by
    simp only [refund2, DUP, SHAKE256, opc, List.length_append, List.length_cons, List.length_nil]
    rw [hH] at hkb; omega
  have htl : (htlc2Tail H hs digest receiver refund deadline flags).length ≥
      (claim2 H hs receiver).length + (refund2 H hs refund deadline).length + 5 := by
    simp only [htlc2Tail, List.length_append, ifElse_length]; omega
  refine Run.ends 3 hfrest hstk hcap hr (by slots) ?_
  unfold htlc2Tail htlc2Spec
  refine Run.pushB hd0 (by omega) (by omega) <| Run.equal (by omega) <|
    Run.ifElse (by omega) (by omega) (by split <;> omega) ?_
  -- after either arm: the committed hash against the hash of the key supplied, then the signature under that key
  have fin : ∀ target : Bytes,
      Run H C cfg fr (sh.copied fr.dict) 2 (EQUAL_VERIFY ++ CHECK_SIG flags) (target :: H.shake256 key hs :: key :: sig :: st) []
        (fun r => Res.summary r = (if target = H.shake256 key hs then
            sigOutcome (SigPure.checkSig H C cfg.lim.maxItemSize sh.cache flags sig key) st else .error (.user .see))) :=
    fun target => Run.equalVerify (by omega)
      (fun heq => by rw [if_pos heq]; exact Run.checkSig_last hno hfl (by omega) fun r h => h)
      (fun hne => by rw [Res.summary_err, if_neg hne])
  -- how either arm ends: the hash of the supplied key under the committed hash of `party`'s key
  have commit : ∀ (party : Bytes) (frB : Frame), Run H C cfg frB (sh.copied fr.dict) 4
      (DUP ++ (SHAKE256 hs ++ pushB (H.shake256 party hs))) (key :: sig :: st) [] (After H C cfg fr _ _) :=
    fun party frB => by
      rw [← List.append_nil (pushB _)]
      exact Run.hashCommit hhs hH hhs0 (by omega) (by omega) (Run.after (fin _))
  rw [truthy_boolBytes]
  cases (digest == hx)
  · -- refund arm: the deadline must have passed
    simp only [Bool.false_eq_true, ↓reduceIte, refund2]
    refine Run.pushB (List.length_pos_iff.mpr (intToBytes_ne_nil _)) (by omega) (by omega) <|
      Run.ctsv ⟨ht, hthr⟩ (intToBytes_ne_nil _) (by omega) (fun hacc => ?_) (fun hacc => After.err (by rw [Res.summary_err, if_pos hacc]))
    rw [if_neg (ne_false_of_eq_true hacc)]
    exact commit refund _
  · -- claim arm
    simp only [↓reduceIte, claim2]
    exact commit receiver _

/-- **the HTLC lock, second layout, for any hash instruction**, given by its rule `hop` -/
theorem htlc2Lock_run (cfg : Cfg) (hno : cfg.sigExts = []) (hashOp : Bytes)
    (hs : Nat) (hhs : hs < 256) (hhs0 : 0 < hs) (hhs1 : hs ≤ 64) (hHs : ∀ x, (H.shake256 x hs).length = hs)
    (x hx digest receiver refund key sig : Bytes) (deadline : Int) (flags : Nat) (st : List Bytes) (sh : Shared) (count : Nat) (t thr : Int)
    (hop : ∀ {fr k rest P}, Run H C cfg fr sh k rest (hx :: key :: sig :: st) [] P →
      Run H C cfg fr sh k (hashOp ++ rest) (x :: key :: sig :: st) [] P)
    (hd0 : 0 < digest.length) (hd1 : digest.length ≤ 64) (hkey : key.length ≤ 64)
    (hdl0 : 0 ≤ deadline) (hdl1 : deadline < 2 ^ 62) (hfl : flags < 256)
    (hstk : sh.stack = x :: key :: sig :: st) (hr : sh.returned = false)
    (ht : lookupC C16.tsKey sh.cache = some (.atom (.int t))) (hthr : cfg.tsThreshold = some thr)
    (hsz : 64 ≤ cfg.lim.maxItemSize) (hroom : st.length + 6 ≤ cfg.lim.maxItems) :
    Ends (instrTable H C cfg) cfg.lim (topFrame (htlc2Lock H hashOp digest receiver refund hs deadline flags) count) sh
      (fun r => Res.summary r = htlc2Spec H C cfg sh.cache hs hx digest receiver refund key sig deadline flags t thr st) :=
  Run.top 3 (htlc2Lock_bytes ..) hstk hr (by slots) <| hop <| Run.exact <|
    htlc2Tail_run H C cfg hno hs hhs hhs0 hhs1 hHs hx digest receiver refund key sig deadline flags st _ _ t thr rfl
      (Nat.lt_succ_self _) (by simp only [topFrame, Frame.cont, htlc2Lock_bytes, List.length_append]; omega)
      hd0 hd1 hkey (deadline_len deadline hdl0 hdl1) hfl rfl hr ht hthr hsz hroom

/-- **C15, SHA-256 HTLC, second layout: exact outcome.** -/
theorem htlc2Sha256Lock_run (cfg : Cfg) (hno : cfg.sigExts = []) (hH : ∀ x, (H.sha256 x).length = 32)
    (hs : Nat) (hhs : hs < 256) (hhs0 : 0 < hs) (hhs1 : hs ≤ 64) (hHs : ∀ x, (H.shake256 x hs).length = hs)
    (x digest receiver refund key sig : Bytes) (deadline : Int) (flags : Nat) (st : List Bytes) (sh : Shared) (count : Nat) (t thr : Int)
    (hd0 : 0 < digest.length) (hd1 : digest.length ≤ 64) (hkey : key.length ≤ 64)
    (hdl0 : 0 ≤ deadline) (hdl1 : deadline < 2 ^ 62) (hfl : flags < 256)
    (hstk : sh.stack = x :: key :: sig :: st) (hr : sh.returned = false)
    (ht : lookupC C16.tsKey sh.cache = some (.atom (.int t))) (hthr : cfg.tsThreshold = some thr)
    (hsz : 64 ≤ cfg.lim.maxItemSize) (hroom : st.length + 6 ≤ cfg.lim.maxItems) :
    Ends (instrTable H C cfg) cfg.lim (topFrame (htlc2Lock H SHA256 digest receiver refund hs deadline flags) count) sh
      (fun r => Res.summary r = htlc2Spec H C cfg sh.cache hs (H.sha256 x) digest receiver refund key sig deadline flags t thr st) :=
  htlc2Lock_run H C cfg hno SHA256 hs hhs hhs0 hhs1 hHs x (H.sha256 x) digest receiver refund key sig deadline flags st sh count t thr
    (Run.sha256 (by rw [hH]; omega)) hd0 hd1 hkey hdl0 hdl1 hfl hstk hr ht hthr hsz hroom

/-- **C15, SHAKE-256 HTLC, second layout: exact outcome** (the digest size is also the key-hash size). -/
theorem htlc2Shake256Lock_run (cfg : Cfg) (hno : cfg.sigExts = [])
    (hs : Nat) (hhs : hs < 256) (hhs0 : 0 < hs) (hhs1 : hs ≤ 64) (hHs : ∀ x, (H.shake256 x hs).length = hs)
    (x digest receiver refund key sig : Bytes) (deadline : Int) (flags : Nat) (st : List Bytes) (sh : Shared) (count : Nat) (t thr : Int)
    (hd0 : 0 < digest.length) (hd1 : digest.length ≤ 64) (hkey : key.length ≤ 64)
    (hdl0 : 0 ≤ deadline) (hdl1 : deadline < 2 ^ 62) (hfl : flags < 256)
    (hstk : sh.stack = x :: key :: sig :: st) (hr : sh.returned = false)
    (ht : lookupC C16.tsKey sh.cache = some (.atom (.int t))) (hthr : cfg.tsThreshold = some thr)
    (hsz : 64 ≤ cfg.lim.maxItemSize) (hroom : st.length + 6 ≤ cfg.lim.maxItems) :
    Ends (instrTable H C cfg) cfg.lim (topFrame (htlc2Lock H (SHAKE256 hs) digest receiver refund hs deadline flags) count) sh
      (fun r => Res.summary r = htlc2Spec H C cfg sh.cache hs (H.shake256 x hs) digest receiver refund key sig deadline flags t thr st) :=
  htlc2Lock_run H C cfg hno (SHAKE256 hs) hs hhs hhs0 hhs1 hHs x (H.shake256 x hs) digest receiver refund key sig deadline flags st sh count t thr
    (Run.shake256 hhs (by rw [hHs]; omega)) hd0 hd1 hkey hdl0 hdl1 hfl hstk hr ht hthr hsz hroom

/-- **second layout: claim and refund paths are exact.** The verdict `[ff]` exactly when the item
    hashes to the digest, the supplied key hashes to the committed receiver-key hash and the
    signature passes C02 under it; or the item does not hash to the digest, `t ≥ deadline` within
    the clock slack, the supplied key hashes to the committed refund-key hash and the signature
    passes C02 under it. -/
theorem htlc2Spec_accepts_iff (cfg : Cfg) (cache : List (CKey × CVal)) (hs : Nat) (hx digest receiver refund key sig : Bytes)
    (deadline : Int) (flags : Nat) (t thr : Int) (hdl0 : 0 ≤ deadline) :
    htlc2Spec H C cfg cache hs hx digest receiver refund key sig deadline flags t thr [] = .ok [[0xff]] ↔
      ((digest = hx ∧ H.shake256 receiver hs = H.shake256 key hs ∧
          SigPure.checkSig H C cfg.lim.maxItemSize cache flags sig key = .ok true) ∨
       (digest ≠ hx ∧ deadline ≤ t ∧ (thr ≤ 0 ∨ t - cfg.now < thr) ∧ H.shake256 refund hs = H.shake256 key hs ∧
          SigPure.checkSig H C cfg.lim.maxItemSize cache flags sig key = .ok true)) := by
  have hcs := sigOutcome_accepts (SigPure.checkSig H C cfg.lim.maxItemSize cache flags sig key)
  unfold htlc2Spec
  rw [refund_time_condition t cfg.now thr deadline hdl0, ite_eq_iff]
  simp only [ite_error_eq_ok, error_ite_eq_ok, beq_iff_eq, decide_eq_false_iff_not, not_not, and_assoc, ne_eq]
  exact or_congr (and_congr_right fun _ => and_congr_right fun _ => hcs)
    (and_congr_right fun _ => and_congr_right fun _ => and_congr_right fun _ => and_congr_right fun _ => hcs)

end htlc

end TV.C15
