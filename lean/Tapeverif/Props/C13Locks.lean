import Tapeverif.Props.C13
/-!
# C13 — graftroot lock, the surrogate path that accepts

`Props/C13.lean` shows that a surrogate whose signature the lock's key did not make is never
evaluated. Here: a surrogate that *is* signed by the lock's key is evaluated, and the lock's
outcome (final stack, or error) is exactly the surrogate script's own outcome on the remaining
stack.
-/
namespace TV.C13
open Tools

variable (H : Hashes) (C : Curve) (cfg : Cfg)

theorem summary_wrapEval (er : Bool) (g : Frame) (r : Res) : Res.summary (wrapEval er g r) = Res.summary r :=
  TV.summary_wrapEval er g r

/-- the state in which the surrogate is evaluated: the witness-left stack below the three
    graftroot items, and the lock's key in cache slot `k` -/
def graftState (sh : Shared) (pk : Bytes) (st : List Bytes) : Shared :=
  { (copyDict { sh with stack := st, cache := (CKey.byt (asciiBytes "k"), CVal.list [Atom.bytes pk]) :: sh.cache } 0).2 with stack := st }

/-- `OP_EVAL` as the last instruction of a tape: the outcome (stack or error) is the evaluated
    script's own -/
theorem ends_eval_last (hev : cfg.disallowEval = false) (frE : Frame) (shE : Shared) (script : Bytes) (st : List Bytes) (rL : Res)
    (hrest : frE.rest = EVAL) (hcap : frE.len0 < frE.cap) (hr : shE.returned = false)
    (hs : shE.stack = script :: st) (hne : script ≠ []) (hc : getCount frE shE < cfg.lim.callLimit)
    (hb : TSteps (instrTable H C cfg) cfg.lim (evalFrame script (getCount frE shE) (copyDict { shE with stack := st } frE.dict).1)
            (copyDict { shE with stack := st } frE.dict).2 rL) :
    Ends (instrTable H C cfg) cfg.lim frE shE (fun r => Res.summary r = Res.summary rL) :=
  ⟨_, tape_single frE shE 45 [] _ rfl cfg.evalReturn rL hrest hcap hr
    (.opEval_done hev hs hne hc hb), summary_wrapEval _ _ _⟩

/-- **C13, graftroot lock, a surrogate signed by the lock's key.** With a true selector on top
    of (surrogate script, signature): if the 64-byte signature verifies under the lock's key over
    the surrogate's bytes, the surrogate is evaluated on the remaining stack and the lock ends with
    exactly the surrogate's own outcome — its final stack, or its error. -/
theorem graftrootLock_surrogate_accepts (hev : cfg.disallowEval = false)
    (pk c script ssig : Bytes) (flags : Nat) (st : List Bytes) (sh : Shared) (count : Nat) (rL : Res)
    (hpk : pk.length = 32) (hc : truthy c = true) (hsl : ssig.length = 64)
    (hs : sh.stack = c :: script :: ssig :: st) (hr : sh.returned = false)
    (hscr : script.length ≤ cfg.lim.maxItemSize) (hne : script ≠ [])
    (hsz : 64 ≤ cfg.lim.maxItemSize) (hroom : st.length + 5 ≤ cfg.lim.maxItems) (hcnt : count < cfg.lim.callLimit)
    (hgood : Sodium.verify H C pk script ssig = true)
    (hL : TSteps (instrTable H C cfg) cfg.lim
            (evalFrame script count (copyDict (graftState sh pk st) sh.dicts.length).1)
            (copyDict (graftState sh pk st) sh.dicts.length).2 rL) :
    Ends (instrTable H C cfg) cfg.lim (topFrame (graftrootLock pk flags) count) sh
      (fun r => Res.summary r = Res.summary rL) := by
  refine graftrootLock_arm H C cfg 1 hpk hs hr (by omega) (by slots) ?_
  rw [hc, if_pos rfl]
  exact Run.graft (Run.readCache varName_k rfl (by omega)) hpk hsl hscr hsz
    (fun _ => Run.eval_last hev hne hcnt hL ((summary_wrapInline _ _).trans (summary_wrapEval _ _ _)))
    (fun hv => absurd (hv.symm.trans hgood) Bool.false_ne_true)

end TV.C13
