import Tapeverif.Lemmas.Exec
/-! # C16 — time constraints accept exactly their documented window -/
namespace TV.C16

open Instr

variable (T : UInt8 → Op) (L : Limits)

/-- the documented acceptance condition of `OP_CHECK_TIMESTAMP` -/
def tsAccept (t now thr : Int) (c : Bytes) : Bool :=
  decide ((natOfBytesBE c : Int) ≤ t ∧ (thr ≤ 0 ∨ t - now < thr))

/-- the documented acceptance condition of `OP_CHECK_EPOCH` -/
def epochAccept (now thr : Int) (c : Bytes) : Bool :=
  decide ((natOfBytesBE c : Int) - now < thr)

def tsKey : CKey := .str (asciiBytes "timestamp")

/-- C16.1 `OP_CHECK_TIMESTAMP` with a non-empty constraint `c` of **any length**, any integer
    timestamp `t`, clock `now` and threshold `thr`: it pops `c` and pushes true exactly when
    `t ≥ c ∧ (thr ≤ 0 ∨ t − now < thr)` (the constraint is read unsigned, big-endian). -/
theorem checkTimestamp_iff (cfg : Cfg) (n : Nat) (k : Op) (fr : Frame) (sh : Shared)
    (c : Bytes) (st : List Bytes) (t thr : Int)
    (hc : c ≠ []) (hs : sh.stack = c :: st)
    (ht : lookupC tsKey sh.cache = some (.atom (.int t)))
    (hthr : cfg.tsThreshold = some thr)
    (h1 : 1 ≤ L.maxItemSize) (h2 : st.length < L.maxItems) :
    runOp T L (n+3) (opCheckTimestamp cfg k) fr sh =
      runOp T L n k fr { sh with stack := boolBytes (tsAccept t cfg.now thr c) :: st } := by
  unfold opCheckTimestamp
  rw [tsKey] at ht
  rw [runOp_pop T L _ _ fr sh c st hs, if_neg hc, runOp_cacheGet_str]
  simp only [ht, hthr]
  -- what is left of the operation is `pushBool (tsAccept …) k`, branch by branch
  refine (congrArg (runOp T L (n+1) · fr _) ?_).trans
    (runOp_pushBool T L n (tsAccept t cfg.now thr c) k fr _ h1 h2)
  unfold tsAccept
  split
  · rw [decide_eq_false]; omega
  · split
    · rw [decide_eq_false]; omega
    · rw [decide_eq_true]; omega

/-- C16.2 `OP_CHECK_EPOCH`: true exactly when `c − now < epoch_threshold` (threshold ≥ 0). -/
theorem checkEpoch_iff (cfg : Cfg) (n : Nat) (k : Op) (fr : Frame) (sh : Shared)
    (c : Bytes) (st : List Bytes) (thr : Int)
    (hc : c ≠ []) (hs : sh.stack = c :: st)
    (hthr : cfg.epochThreshold = some thr) (hpos : 0 ≤ thr)
    (h1 : 1 ≤ L.maxItemSize) (h2 : st.length < L.maxItems) :
    runOp T L (n+2) (opCheckEpoch cfg k) fr sh =
      runOp T L n k fr { sh with stack := boolBytes (epochAccept cfg.now thr c) :: st } := by
  unfold opCheckEpoch
  rw [runOp_pop T L _ _ fr sh c st hs, if_neg hc]
  simp only [hthr, if_neg (Int.not_lt.2 hpos)]
  refine (congrArg (runOp T L (n+1) · fr _) ?_).trans
    (runOp_pushBool T L n (epochAccept cfg.now thr c) k fr _ h1 h2)
  unfold epochAccept
  split
  · rw [decide_eq_false]; omega
  · rw [decide_eq_true]; omega

/-- C16.3 an empty constraint, a missing / non-integer timestamp or a malformed threshold is
    an error, never true. -/
theorem checkTimestamp_empty_constraint (cfg : Cfg) (n : Nat) (k : Op) (fr : Frame) (sh : Shared)
    (st : List Bytes) (hs : sh.stack = [] :: st) :
    runOp T L (n+2) (opCheckTimestamp cfg k) fr sh = .err (.user .see) { sh with stack := st } := by
  unfold opCheckTimestamp
  rw [runOp_pop T L _ _ fr sh [] st hs, if_pos rfl, runOp_fail]

/-- C16.4 the value a lock leaves for the time-before lock is `¬ tsAccept`; with the two-clause
    acceptance condition this is **not** `t < ts`: it also accepts every `t ≥ ts` that is ahead
    of the verifier clock by the threshold or more (known finding K1). -/
theorem beforeLock_value_iff (t now thr : Int) (c : Bytes) :
    (!tsAccept t now thr c) = decide (t < (natOfBytesBE c : Int) ∨ (thr > 0 ∧ t - now ≥ thr)) := by
  rw [tsAccept, ← decide_not]
  exact decide_eq_decide.2 (by omega)

/-- … and is exactly `t < ts` whenever the future-slack clause is not triggered. -/
theorem beforeLock_value_partial (t now thr : Int) (c : Bytes) (h : ¬ (thr > 0 ∧ t - now ≥ thr)) :
    (!tsAccept t now thr c) = decide (t < (natOfBytesBE c : Int)) := by
  rw [beforeLock_value_iff]
  exact decide_eq_decide.2 (or_iff_left h)

/-- K1 negation witness: t = now+61, ts = now+10, thr = 60 is accepted although t ≥ ts. -/
example : (!tsAccept (1000 + 61) 1000 60 (natToBytesBE 2 1010)) = true := by decide

/-- Non-vacuity of C16.1 at a boundary: t = c is accepted, t = c − 1 is not. -/
example : tsAccept 1010 1000 60 (natToBytesBE 2 1010) = true ∧
          tsAccept 1009 1000 60 (natToBytesBE 2 1010) = false := by decide

end TV.C16
