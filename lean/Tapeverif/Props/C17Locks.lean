import Tapeverif.Props.C17Instr
import Tapeverif.Lemmas.RunRel
/-!
# C17 / C18 — the adapter locks, executed

`make_adapter_locks_pub(pk, T, flags)` returns two scripts; `setup_amhl` hands the same pair to every
hop of an anonymous multi-hop lock with that hop's point `T`. The second is the single-signature
lock (`Props/C13.lean`: `singleSigLock_run`, exactly the C02 specification). Here the first one,
`get_message <flags> push <T> push <pk> check_adapter_sig`, and the decryption script
`push <t> decrypt_adapter_sig`, are executed symbolically: what they leave is exactly the value of
`adapterCheck` (`Props/C17Instr.lean`) on the message the flags select and the two items the
witness pushed — resp. `s = sa + t` on top of `R + t·G`. The first script is run in front of any
tape (`Run.adapterLock1`): the single-script lock of `Props/C17LockPub.lean` contains it.
-/
namespace TV.C17
open Instr Tools

variable (H : Hashes) (C : Curve) (cfg : Cfg)

theorem leBytes32_length (n : Nat) : (Sodium.leBytes32 n).length = 32 := by
  simp [Sodium.leBytes32, natToBytesLE, natToBytesBE_length]

theorem leNat_leBytes32 (n : Nat) : Sodium.leNat (Sodium.leBytes32 n) = n % 256 ^ 32 := by
  simp only [Sodium.leNat, Sodium.leBytes32, natOfBytesLE, natToBytesLE, List.reverse_reverse, natOf_natTo]

/-- clamping (not from a key) returns a 32-byte scalar below `2^255` as it is -/
theorem clampScalar_leBytes32 (x : Nat) :
    Sodium.clampScalar (Sodium.leBytes32 (x % 2 ^ 255)) false = .ok (Sodium.leBytes32 (x % 2 ^ 255)) := by
  have hl := leBytes32_length (x % 2 ^ 255)
  unfold Sodium.clampScalar
  simp only [hl, ge_iff_le, Nat.le_refl, ↓reduceIte, Bool.false_eq_true, List.take_of_length_le (Nat.le_of_eq hl), leNat_leBytes32,
    Nat.mod_mod_of_dvd _ (⟨2, rfl⟩ : 2 ^ 255 ∣ 256 ^ 32), Nat.mod_mod]
  rfl

theorem clampScalar_idem (v t : Bytes) (h : Sodium.clampScalar v false = .ok t) :
    Sodium.clampScalar t false = .ok t ∧ t.length = 32 := by
  unfold Sodium.clampScalar at h
  split at h
  · simp only [Bool.false_eq_true, ↓reduceIte, pure, Except.pure, Except.ok.injEq] at h
    subst h
    exact ⟨clampScalar_leBytes32 _, leBytes32_length _⟩
  · cases h

/-- `OP_GET_MESSAGE <flag>` (no signature-extension plugin installed) before any continuation: the
    message the C02 specification builds from the cache is pushed -/
theorem getMessage_instruction {T : UInt8 → Op} {L : Limits} {k : Op} {fr : Frame} {sh : Shared} {r : Res} (hno : cfg.sigExts = [])
    {flag : Nat} {m rest : Bytes} (hfl : flag < 256) (hrest : fr.rest = UInt8.ofNat flag :: rest)
    (hm : SigPure.message flag sh.cache = .ok m) (hsz : m.length ≤ L.maxItemSize) (hroom : sh.stack.length < L.maxItems)
    (h : Steps T L k { fr with rest := rest } { sh with stack := m :: sh.stack } r) : Steps T L (opGetMessage cfg k) fr sh r := by
  rw [opGetMessage, sigExt_nil hno]
  refine .readU1 hfl hrest (steps_of_eq (1 + 8) (fun n => ?_) h)
  show runOp T L (n + 1 + 8) (getMessageFrom flag 8 1 [] fun m => .push m k) _ sh = _
  rw [getMessageFrom_refines, show SigPure.msgFrom flag sh.cache 8 1 = .ok m from hm]
  exact runOp_push T L n m k _ sh hsz hroom

/-- `OP_GET_MESSAGE <flag>` at the head of a tape (no signature-extension plugin installed): the
    message the C02 specification builds from the cache is pushed -/
theorem run_getMessage (hno : cfg.sigExts = []) (fr : Frame) (sh : Shared) (rest' : Bytes) (flag : Nat) (m : Bytes) (r : Res)
    (hrest : fr.rest = GET_MESSAGE flag ++ rest') (hfl : flag < 256) (hcap : fr.len0 < fr.cap) (hr : sh.returned = false)
    (hm : SigPure.message flag sh.cache = .ok m) (hsz : m.length ≤ cfg.lim.maxItemSize) (hroom : sh.stack.length < cfg.lim.maxItems)
    (h : TSteps (instrTable H C cfg) cfg.lim { fr with rest := rest' } { sh with stack := m :: sh.stack } r) :
    TSteps (instrTable H C cfg) cfg.lim fr sh r :=
  run_instr fr _ sh _ 5 _ r hrest hcap hr (getMessage_instruction cfg hno hfl rfl hm hsz hroom (.done _ _)) h

/-- `OP_CHECK_ADAPTER_SIG` at the head of a tape, the point / scalar functions succeeding -/
theorem run_checkAdapterSig (fr : Frame) (sh : Shared) (rest' : Bytes) (X Tp m Rp sa : Bytes) (b : Bool) (st : List Bytes) (r : Res)
    (hrest : fr.rest = CHECK_ADAPTER_SIG ++ rest') (hcap : fr.len0 < fr.cap) (hr : sh.returned = false)
    (hs : sh.stack = X :: Tp :: m :: Rp :: sa :: st) (hc : adapterCheck H C X Tp m Rp sa = .ok b)
    (h1 : 1 ≤ cfg.lim.maxItemSize) (hroom : st.length < cfg.lim.maxItems)
    (h : TSteps (instrTable H C cfg) cfg.lim { fr with rest := rest' } { sh with stack := boolBytes b :: st } r) :
    TSteps (instrTable H C cfg) cfg.lim fr sh r :=
  run_instr fr _ sh _ 83 rest' r hrest hcap hr
    (checkAdapterSig_instruction H C cfg _ .done _ _ X Tp m Rp sa st _ hs hroom h1 (by rw [hc]; exact .done _ _)) h

theorem run_decryptAdapterSig (fr : Frame) (sh : Shared) (rest' : Bytes) (t0 Rp sa t Tp RT s : Bytes) (st : List Bytes) (r : Res)
    (hrest : fr.rest = DECRYPT_ADAPTER_SIG ++ rest') (hcap : fr.len0 < fr.cap) (hr : sh.returned = false)
    (hs : sh.stack = t0 :: Rp :: sa :: st)
    (ht : Sodium.clampScalar t0 false = .ok t) (hT : Sodium.derivePoint C t = .ok Tp)
    (hRT : Sodium.aggregatePoints C [Rp, Tp] = .ok RT) (hsum : Sodium.scalarAdd sa t = .ok s)
    (hRTl : RT.length ≤ cfg.lim.maxItemSize) (hsl : s.length ≤ cfg.lim.maxItemSize) (hroom : st.length + 1 < cfg.lim.maxItems)
    (h : TSteps (instrTable H C cfg) cfg.lim { fr with rest := rest' }
          { sh with stack := s :: RT :: st, cache := decCache cfg sh.cache RT s } r) :
    TSteps (instrTable H C cfg) cfg.lim fr sh r :=
  run_instr fr _ sh _ 84 rest' r hrest hcap hr
    (decryptAdapterSig_instruction C cfg _ .done _ _ t0 Rp sa t Tp RT s st _ hs ht hT hRT hsum hRTl hsl hroom (.done _ _)) h

section rules
variable {H C cfg} {fr : Frame} {sh : Shared} {k : Nat} {rest : Bytes} {st : List Bytes} {wr : Written} {P : Res → Prop}

theorem Run.getMessage (hno : cfg.sigExts = []) {flag : Nat} {m : Bytes} (hfl : flag < 256)
    (hm : SigPure.message flag sh.cache = .ok m) (hsz : m.length ≤ cfg.lim.maxItemSize)
    (h : Run H C cfg fr sh k rest (m :: st) wr P) : Run H C cfg fr sh (k + 1) (GET_MESSAGE flag ++ rest) st wr P :=
  Run.instr (c := 5) h (by slots) fun hk =>
    getMessage_instruction cfg hno hfl rfl ((message_written flag wr _).trans hm) hsz (by show st.length < _; omega) (.done _ _)

/-- `OP_CHECK_ADAPTER_SIG`: the run goes on below the Boolean of the check, or ends in its error -/
theorem Run.checkAdapterSig {X Tp m Rp sa : Bytes} (h1 : 1 ≤ cfg.lim.maxItemSize)
    (hok : ∀ b, adapterCheck H C X Tp m Rp sa = .ok b → Run H C cfg fr sh (k + 4) rest (boolBytes b :: st) wr P)
    (herr : ∀ e, adapterCheck H C X Tp m Rp sa = .error e → P (.err (.user e) (sh.upd st wr))) :
    Run H C cfg fr sh k (CHECK_ADAPTER_SIG ++ rest) (X :: Tp :: m :: Rp :: sa :: st) wr P := by
  cases hc : adapterCheck H C X Tp m Rp sa with
  | ok b =>
    exact Run.instr (c := 83) (hok b hc) (by slots) fun hk =>
      checkAdapterSig_instruction H C cfg _ .done _ _ X Tp m Rp sa st _ rfl (by slots) h1 (by rw [hc]; exact .done _ _)
  | error e =>
    exact Run.raise (c := 83) (fun hk =>
      checkAdapterSig_instruction H C cfg _ .done _ _ X Tp m Rp sa st _ rfl (by slots) h1 (by rw [hc]; rfl)) (herr e hc)

/-- the entries `OP_DECRYPT_ADAPTER_SIG` writes under the cache-copy flags 7 and 9 -/
def decWritten (cfg : Cfg) (RT s : Bytes) : Written :=
  (if cfg.flag 9 then [(asciiBytes "s", .atom (.bytes s))] else []) ++
  (if cfg.flag 7 then [(asciiBytes "RT", .atom (.bytes RT))] else [])

theorem decCache_written (cfg : Cfg) (wr : Written) (base : Cache) (RT s : Bytes) :
    decCache cfg (written wr base) RT s = written (decWritten cfg RT s ++ wr) base := by
  unfold decCache decWritten
  cases cfg.flag 9 <;> cases cfg.flag 7 <;> rfl

theorem Run.decryptAdapterSig {t0 Rp sa t Tp RT s : Bytes}
    (ht : Sodium.clampScalar t0 false = .ok t) (hT : Sodium.derivePoint C t = .ok Tp)
    (hRT : Sodium.aggregatePoints C [Rp, Tp] = .ok RT) (hsum : Sodium.scalarAdd sa t = .ok s)
    (hRTl : RT.length ≤ cfg.lim.maxItemSize) (hsl : s.length ≤ cfg.lim.maxItemSize)
    (h : Run H C cfg fr sh (k + 1) rest (s :: RT :: st) (decWritten cfg RT s ++ wr) P) :
    Run H C cfg fr sh k (DECRYPT_ADAPTER_SIG ++ rest) (t0 :: Rp :: sa :: st) wr P :=
  Run.instr (c := 84) h (by slots) fun hk =>
    decryptAdapterSig_instruction C cfg _ .done _ _ t0 Rp sa t Tp RT s st _ rfl ht hT hRT hsum hRTl hsl (by slots)
      (decCache_written cfg wr sh.cache RT s ▸ .done _ _)

/-- the first adapter lock, instruction by instruction -/
theorem adapterLock1_bytes (pk Tp : Bytes) (flags : Nat) :
    adapterLock1 pk Tp flags = GET_MESSAGE flags ++ (pushB Tp ++ (pushB pk ++ CHECK_ADAPTER_SIG)) := by
  simp [adapterLock1, List.append_assoc]

/-- **the adapter-checking script in front of any tape**, on the adapter `(R, sa)`: the run goes on
    below the Boolean `adapterCheck pk T m R sa` for the flag-selected message, or ends in its error -/
theorem Run.adapterLock1 (hno : cfg.sigExts = []) {pk Tp Rp sa m : Bytes} {flags : Nat}
    (hpk : pk.length = 32) (hT : Tp.length = 32) (hfl : flags < 256)
    (hm : SigPure.message flags sh.cache = .ok m) (hmsz : m.length ≤ cfg.lim.maxItemSize) (h32 : 32 ≤ cfg.lim.maxItemSize)
    (hok : ∀ b, adapterCheck H C pk Tp m Rp sa = .ok b → Run H C cfg fr sh (k + 4) rest (boolBytes b :: st) wr P)
    (herr : ∀ e, adapterCheck H C pk Tp m Rp sa = .error e → P (.err (.user e) (sh.upd st wr))) :
    Run H C cfg fr sh (k + 3) (adapterLock1 pk Tp flags ++ rest) (Rp :: sa :: st) wr P := by
  rw [adapterLock1_bytes]
  simp only [List.append_assoc]
  exact Run.getMessage hno hfl hm hmsz <| Run.pushKey hT h32 <|
    Run.pushKey hpk h32 <| Run.checkAdapterSig (by omega) hok herr

end rules

/-- **C17 / C18, the adapter-checking lock, exactly.** Started (no signature-extension plugin) on a
    stack whose top is the nonce point `Rp` over the adapter scalar `sa`: if the flag-selected
    message is `m`, the lock ends with exactly the Boolean `adapterCheck pk T m R sa` — i.e.
    `sa < L ∧ sa·G = R + H(R+T ‖ pk ‖ m)·pk` — on top of the remaining stack, or with exactly the
    error the point / scalar functions raise. Nothing else decides the verdict. -/
theorem adapterLock1_run (hno : cfg.sigExts = []) (pk Tp Rp sa m : Bytes) (flags : Nat) (st : List Bytes)
    (sh : Shared) (count : Nat)
    (hpk : pk.length = 32) (hT : Tp.length = 32) (hfl : flags < 256)
    (hs : sh.stack = Rp :: sa :: st) (hr : sh.returned = false)
    (hm : SigPure.message flags sh.cache = .ok m) (hmsz : m.length ≤ cfg.lim.maxItemSize)
    (h32 : 32 ≤ cfg.lim.maxItemSize) (hroom : st.length + 5 ≤ cfg.lim.maxItems) :
    Ends (instrTable H C cfg) cfg.lim (topFrame (adapterLock1 pk Tp flags) count) sh
      (fun r => Res.summary r =
        (match adapterCheck H C pk Tp m Rp sa with
         | .ok b => .ok (boolBytes b :: st)
         | .error e => .error (.user e))) :=
  Run.top 3 (List.append_nil _).symm hs hr (by slots) <|
    Run.adapterLock1 hno hpk hT hfl hm hmsz h32 (fun b hc => Run.nil (by rw [hc]; rfl)) (fun e hc => by rw [hc]; rfl)

/-- a non-canonical adapter scalar never unlocks the first adapter lock (fix F17, at lock level) -/
theorem adapterLock1_noncanonical (hno : cfg.sigExts = []) (pk Tp Rp sa m : Bytes) (flags : Nat) (st : List Bytes)
    (sh : Shared) (count : Nat)
    (hpk : pk.length = 32) (hT : Tp.length = 32) (hfl : flags < 256)
    (hs : sh.stack = Rp :: sa :: st) (hr : sh.returned = false)
    (hm : SigPure.message flags sh.cache = .ok m) (hmsz : m.length ≤ cfg.lim.maxItemSize)
    (h32 : 32 ≤ cfg.lim.maxItemSize) (hroom : st.length + 5 ≤ cfg.lim.maxItems)
    (hbig : groupL ≤ Sodium.leNat sa) :
    Ends (instrTable H C cfg) cfg.lim (topFrame (adapterLock1 pk Tp flags) count) sh
      (fun r => Res.summary r ≠ .ok (boolBytes true :: st)) :=
  (adapterLock1_run H C cfg hno pk Tp Rp sa m flags st sh count hpk hT hfl hs hr hm hmsz h32 hroom).imp fun r hsum => by
    rw [hsum]
    cases hc : adapterCheck H C pk Tp m Rp sa with
    | error e => nofun
    | ok b =>
      cases b
      · simp [boolBytes]
      · exact absurd hc (adapterCheck_noncanonical H C pk Tp m Rp sa hbig)

/-- **the decryption script, exactly**: `push <t> decrypt_adapter_sig` on a stack whose top is `R`
    over `sa` ends with `s = sa + t` on top of `RT = R + t·G` (the concatenation `RT ‖ s` is what
    the second lock then checks as a signature). -/
theorem adapterDecrypt_run (tweak t Rp sa Tp RT s : Bytes) (st : List Bytes) (sh : Shared) (count : Nat) (script : Bytes)
    (hb : adapterDecrypt tweak = .ok script)
    (ht : Sodium.clampScalar tweak false = .ok t)
    (hs : sh.stack = Rp :: sa :: st) (hr : sh.returned = false)
    (hT : Sodium.derivePoint C t = .ok Tp)
    (hRT : Sodium.aggregatePoints C [Rp, Tp] = .ok RT) (hsum : Sodium.scalarAdd sa t = .ok s)
    (hRTl : RT.length ≤ cfg.lim.maxItemSize) (hsl : s.length ≤ cfg.lim.maxItemSize)
    (h32 : 32 ≤ cfg.lim.maxItemSize) (hroom : st.length + 3 ≤ cfg.lim.maxItems) :
    Ends (instrTable H C cfg) cfg.lim (topFrame script count) sh
      (fun r => Res.summary r = .ok (s :: RT :: st)) := by
  -- the script pushes the clamped tweak, which the instruction clamps again: to itself
  obtain ⟨ht2, htl⟩ := clampScalar_idem tweak t ht
  have hscr : script = pushB t ++ (DECRYPT_ADAPTER_SIG ++ []) := by
    unfold adapterDecrypt at hb
    rw [ht] at hb
    simpa [bind, Except.bind, pure, Except.pure] using hb.symm
  exact Run.top 1 hscr hs hr (by slots) <| Run.pushB (by omega) (by omega) (by omega) <|
    Run.decryptAdapterSig ht2 hT hRT hsum hRTl hsl (Run.nil rfl)

end TV.C17
