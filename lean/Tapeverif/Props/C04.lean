import Tapeverif.Lemmas.RunInstr
/-! # C04 — merklized scripts -/
namespace TV.C04

open Instr Tools

variable (H : Hashes) (C : Curve)

/-- the digest `OP_MERKLEVAL` compares with the committed root -/
def levelDigest (script sib : Bytes) : Bytes :=
  xorBytes (H.sha256 sib) (H.sha256 (H.sha256 script))

theorem zipWithPad_comm (f : UInt8 → UInt8 → UInt8) (hf : ∀ a b, f a b = f b a) (a b : Bytes) :
    zipWithPad f a b = zipWithPad f b a := by
  fun_induction zipWithPad f a b with
  | case1 => rw [zipWithPad]
  | case2 _ _ ih | case3 _ _ ih | case4 _ _ _ _ ih => rw [zipWithPad, ← ih, hf]

theorem xorBytes_comm (a b : Bytes) : xorBytes a b = xorBytes b a :=
  zipWithPad_comm _ UInt8.xor_comm a b

theorem levelDigest_length (hH : ∀ x, (H.sha256 x).length = 32) (script sib : Bytes) :
    (levelDigest H script sib).length = 32 := by
  rw [levelDigest, xorBytes, zipWithPad_length, hH, hH, Nat.max_self]

/-- everything `OP_MERKLEVAL` does before `OP_EQUAL_VERIFY`: it leaves `root :: digest :: script :: st` -/
theorem merkleval_core {cfg : Cfg} {T : UInt8 → Op} {k : Op} {fr : Frame} {sh : Shared}
    {root rest script sib : Bytes} {st : List Bytes} {r : Res}
    (hH : ∀ x, (H.sha256 x).length = 32)
    (hroot : root.length = 32) (hrest : fr.rest = root ++ rest)
    (hs : sh.stack = script :: sib :: st)
    (hsz : script.length ≤ cfg.lim.maxItemSize) (hsb : sib.length ≤ cfg.lim.maxItemSize)
    (h32 : 32 ≤ cfg.lim.maxItemSize) (hroom : st.length + 2 < cfg.lim.maxItems)
    (hk : Steps T cfg.lim (opEqualVerify (opEval cfg k)) { fr with rest := rest }
            { sh with stack := root :: levelDigest H script sib :: script :: st } r) :
    Steps T cfg.lim (opMerkleval H cfg k) fr sh r := by
  have hh (x : Bytes) : (H.sha256 x).length ≤ cfg.lim.maxItemSize := hH x ▸ h32
  -- the stack after each instruction, `h` for `H.sha256`
  exact .readN hroot hrest <| .opDup hs hsz hroom <|              -- script :: script :: sib :: st
    .opSha256 rfl (hh _) hroom <| .opSha256 rfl (hh _) hroom <|   -- h (h script) :: script :: sib :: st
    .swap12 rfl (hh _) hsz hsb hroom <|                           -- h (h script) :: sib :: script :: st
    .opSwap2 rfl (hh _) hsb hroom <|                              -- sib :: h (h script) :: script :: st
    .opSha256 rfl (hh _) hroom <|                                 -- h sib :: h (h script) :: script :: st
    .bitop rfl (levelDigest_length H hH script sib ▸ h32) (Nat.lt_of_succ_lt hroom) <|
    .push (hroot ▸ h32) hroom hk

/-- **C04 binding, instruction level.** `OP_MERKLEVAL <root>` on a stack `script :: sib :: st`
    whose pair does not hash to `root` ends with a `ScriptExecutionError` *before* the EVAL
    step: the derivation never reaches a `sub` node, and the final state differs from
    the initial one only in the stack (`script :: st`) — cache, definitions, call counters,
    plugin log and random counter are untouched, so no instruction of `script` ran. -/
theorem merkleval_rejects (cfg : Cfg) (T : UInt8 → Op) (k : Op) (fr : Frame) (sh : Shared)
    (root rest script sib : Bytes) (st : List Bytes)
    (hH : ∀ x, (H.sha256 x).length = 32)
    (hroot : root.length = 32) (hrest : fr.rest = root ++ rest)
    (hs : sh.stack = script :: sib :: st)
    (hsz : script.length ≤ cfg.lim.maxItemSize) (hsb : sib.length ≤ cfg.lim.maxItemSize)
    (h32 : 32 ≤ cfg.lim.maxItemSize) (hroom : st.length + 2 < cfg.lim.maxItems)
    (hne : levelDigest H script sib ≠ root) :
    Steps T cfg.lim (opMerkleval H cfg k) fr sh (.err (.user .see) { sh with stack := script :: st }) :=
  merkleval_core H hH hroot hrest hs hsz hsb h32 hroom (.opEqualVerify_ne rfl hne.symm (by omega) (Nat.lt_of_succ_lt hroom))

/-- **C04 completeness, instruction level.** On a pair that does hash to `root` the instruction
    behaves exactly as `OP_EVAL` of `script` on the stack `st` — whatever that outcome `r` is. -/
theorem merkleval_accepts (cfg : Cfg) (T : UInt8 → Op) (k : Op) (fr : Frame) (sh : Shared)
    (root rest script sib : Bytes) (st : List Bytes) (r : Res)
    (hH : ∀ x, (H.sha256 x).length = 32)
    (hroot : root.length = 32) (hrest : fr.rest = root ++ rest)
    (hs : sh.stack = script :: sib :: st)
    (hsz : script.length ≤ cfg.lim.maxItemSize) (hsb : sib.length ≤ cfg.lim.maxItemSize)
    (h32 : 32 ≤ cfg.lim.maxItemSize) (hroom : st.length + 2 < cfg.lim.maxItems)
    (heq : levelDigest H script sib = root)
    (hk : Steps T cfg.lim (opEval cfg k) { fr with rest := rest } { sh with stack := script :: st } r) :
    Steps T cfg.lim (opMerkleval H cfg k) fr sh r := by
  subst heq
  exact merkleval_core H hH hroot hrest hs hsz hsb h32 hroom (.opEqualVerify_eq rfl (by omega) (Nat.lt_of_succ_lt hroom) hk)

/-- a verifying `OP_MERKLEVAL` closing a tape ends as `script` does, run on `st` in its own `OP_EVAL`
    frame and seen by its caller -/
theorem merkleval_done {cfg : Cfg} (hev : cfg.disallowEval = false) {T : UInt8 → Op} {fr : Frame} {sh : Shared}
    {root rest script sib : Bytes} {st : List Bytes} {rB : Res}
    (hH : ∀ x, (H.sha256 x).length = 32) (hrest : fr.rest = root ++ rest) (hs : sh.stack = script :: sib :: st)
    (hsz : script.length ≤ cfg.lim.maxItemSize) (hsb : sib.length ≤ cfg.lim.maxItemSize)
    (h32 : 32 ≤ cfg.lim.maxItemSize) (hroom : st.length + 2 < cfg.lim.maxItems)
    (heq : levelDigest H script sib = root) (hne : script ≠ []) (hc : getCount fr sh < cfg.lim.callLimit)
    (hb : TSteps T cfg.lim (evalFrame script (getCount fr sh) (copyDict { sh with stack := st } fr.dict).1)
            (copyDict { sh with stack := st } fr.dict).2 rB) :
    Steps T cfg.lim (opMerkleval H cfg .done) fr sh (wrapEval cfg.evalReturn { fr with rest := rest } rB) :=
  merkleval_accepts H cfg T .done fr sh root rest script sib st _ hH (heq ▸ levelDigest_length H hH script sib) hrest hs
    hsz hsb h32 hroom heq (.opEval_done hev rfl hne hc hb)

/-- a subtree's executed script hashes to its commitment -/
theorem code_commitment (t : Tree) : H.sha256 (Tree.code H t) = Tree.commitment H t := by
  cases t <;> simp [Tree.code, Tree.commitment, Tree.lockScript]

/-- **every level of every tree verifies**, whichever side the executed subtree is on -/
theorem level_ok_left (l r : Tree) :
    levelDigest H (Tree.code H l) (Tree.commitment H r) = Tree.root H (.node l r) := by
  rw [levelDigest, code_commitment, xorBytes_comm, Tree.root]

theorem level_ok_right (l r : Tree) :
    levelDigest H (Tree.code H r) (Tree.commitment H l) = Tree.root H (.node l r) := by
  rw [levelDigest, code_commitment, Tree.root]

/-- the same, the side given as in a path -/
theorem level_ok (d : Bool) (l r : Tree) :
    levelDigest H (Tree.code H (if d then r else l)) (Tree.commitment H (if d then l else r)) = Tree.root H (.node l r) := by
  cases d
  · exact level_ok_left H l r
  · exact level_ok_right H l r

/-- the items a leaf's unlocking script leaves on the stack (top first): per level the executed
    script of the subtree on the path, then the sibling's commitment -/
def proofStack : Tree → List Bool → List Bytes
  | .node l r, d :: rest =>
    let sub := if d then r else l
    let sib := if d then l else r
    Tree.code H sub :: Tree.commitment H sib :: proofStack sub rest
  | _, _ => []

/-- the leaf script reached by a path -/
def leafAt : Tree → List Bool → Option Bytes
  | .leaf s, [] => some s
  | .node l r, d :: rest => leafAt (if d then r else l) rest
  | _, _ => none

/-- frame and state in which the leaf script starts: per level one `OP_EVAL` entry (call counter
    + 1, a copy of the definition dictionary), the proof items popped -/
def leafEntry : Tree → List Bool → Frame → Shared → List Bytes → Frame × Shared
  | .node l r, d :: rest, fr, sh, st =>
    let sub := if d then r else l
    let sh1 : Shared := { sh with stack := proofStack H sub rest ++ st }
    let frE := evalFrame (Tree.code H sub) (getCount fr sh1) (copyDict sh1 fr.dict).1
    let shE := (copyDict sh1 fr.dict).2
    match sub with
    | .leaf _ => (frE, shE)
    | .node _ _ => leafEntry sub rest { frE with rest := Tree.root H sub } shE st
  | _, _, fr, sh, _ => (fr, sh)

/-- **C04 completeness and exactness, whole tree.** From a stack holding the proof of the leaf
    at `path` (as its unlocking script leaves it) above `st`, `OP_MERKLEVAL <root>` ends exactly
    as the leaf script does when started on `st` in the frame `leafEntry` describes — same
    cache, plugin log and random counter as before the lock, the call counter advanced by the
    number of levels — seen through `eval` by the lock's tape. The only scripts that run on the
    way are the level scripts `OP_MERKLEVAL <subroot>` of the path; no other leaf starts. -/
theorem tree_run (cfg : Cfg) (hev : cfg.disallowEval = false)
    (hH : ∀ x, (H.sha256 x).length = 32) :
    ∀ (path : List Bool) (t : Tree) (s : Bytes) (fr : Frame) (sh : Shared) (st : List Bytes) (rest : Bytes) (rL : Res),
    (∃ l r, t = .node l r) → leafAt t path = some s → s ≠ [] →
    fr.rest = Tree.root H t ++ rest →
    sh.stack = proofStack H t path ++ st →
    (∀ x ∈ proofStack H t path, x.length ≤ cfg.lim.maxItemSize) → 32 ≤ cfg.lim.maxItemSize →
    (proofStack H t path ++ st).length < cfg.lim.maxItems →
    getCount fr sh + path.length ≤ cfg.lim.callLimit →
    fr.fn = none → sh.returned = false →
    TSteps (instrTable H C cfg) cfg.lim (leafEntry H t path fr sh st).1 (leafEntry H t path fr sh st).2 rL →
    Steps (instrTable H C cfg) cfg.lim (opMerkleval H cfg .done) fr sh
      (wrapEval cfg.evalReturn { fr with rest := rest } rL) := by
  intro path t s fr sh st rest rL hn hleaf hsne hrest hs hsz h32 hroom hcalls _ hret hL
  -- along the recursion of `leafEntry`: the subtree `sub` on the path is the leaf, or a node, or `t` has no level
  fun_induction leafEntry H t path fr sh st generalizing rest rL with
  | case1 l r d p fr sh st sub sh1 frE shE s' hsub =>
    have hleaf : leafAt sub p = some s := hleaf
    rw [hsub] at hleaf
    have hne : Tree.code H sub ≠ [] := by
      rw [hsub]
      cases p <;> cases hleaf
      exact hsne
    exact merkleval_done H hev hH hrest hs (hsz _ (.head _)) (hsz _ (.tail _ (.head _))) h32 hroom (level_ok H d l r) hne
      (by simp only [List.length_cons] at hcalls; omega) hL
  | case2 l r d p fr sh st sub sh1 frE shE l' r' hsub ih =>
    simp only [List.length_cons] at hcalls
    have hcode : Tree.code H sub = 60 :: Tree.root H sub := by rw [hsub]; rfl
    -- the level script `OP_MERKLEVAL <subroot>` is the whole tape of its eval frame
    rw [← wrapEval_wrapEval _ _ { frE with rest := [] }]
    refine merkleval_done H hev hH hrest hs (hsz _ (.head _)) (hsz _ (.tail _ (.head _))) h32 hroom (level_ok H d l r)
      (hcode ▸ List.cons_ne_nil _ _) (by omega) ?_
    refine tape_single frE shE 60 (Tree.root H sub) _ rfl _ rL hcode (Nat.lt_succ_self _) hret ?_
    exact ih [] rL ⟨l', r', hsub⟩ hleaf (List.append_nil _).symm rfl (fun x hx => hsz x (.tail _ (.tail _ hx)))
      (Nat.lt_of_succ_lt (Nat.lt_of_succ_lt hroom)) (by show getCount fr sh + 1 + p.length ≤ _; omega) rfl hret hL
  | case3 path t fr sh st hnot =>
    obtain ⟨l, r, rfl⟩ := hn
    cases path with
    | nil => cases hleaf
    | cons d p => exact (hnot l r d p rfl rfl).elim

/-- the unlocking script pushes the proof items, bottom one first -/
theorem unlock_eq {t : Tree} {path : List Bool} {u : Bytes} (h : Tree.unlock H t path = some u) :
    u = (proofStack H t path).reverse.flatMap pushB := by
  fun_induction Tree.unlock H t path generalizing u with
  | case1 => cases h; rfl
  | case2 | case3 | case5 => cases h
  | case4 l r d p sub sib hd inner hi ih =>
    cases h
    cases ih hi
    obtain ⟨rfl, rfl⟩ : sub = (if d then r else l) ∧ sib = (if d then l else r) := by
      cases d <;> cases hd <;> exact ⟨rfl, rfl⟩
    simp only [proofStack, List.reverse_cons, List.flatMap_append, List.flatMap_cons, List.flatMap_nil, List.append_nil]

/-- **the unlocking script pushes exactly the proof**: running the bytes `Tree.unlock` produces
    (at the head of any tape) leaves `proofStack` on top of the stack and nothing else changes -/
theorem unlock_run (cfg : Cfg) :
    ∀ (path : List Bool) (t : Tree) (u : Bytes) (fr : Frame) (sh : Shared) (rest' : Bytes) (r : Res),
    Tree.unlock H t path = some u → fr.rest = u ++ rest' → fr.len0 < fr.cap → sh.returned = false →
    (∀ x ∈ proofStack H t path, 0 < x.length ∧ x.length < 65536 ∧ x.length ≤ cfg.lim.maxItemSize) →
    (proofStack H t path).length + sh.stack.length ≤ cfg.lim.maxItems →
    TSteps (instrTable H C cfg) cfg.lim { fr with rest := rest' } { sh with stack := proofStack H t path ++ sh.stack } r →
    TSteps (instrTable H C cfg) cfg.lim fr sh r := by
  intro path t u fr sh rest' r hu hrest hcap hr hsz hroom h
  refine run_pushes H C cfg (proofStack H t path).reverse fr sh rest' r (unlock_eq H hu ▸ hrest) hcap hr
    (fun v hv => hsz v (List.mem_reverse.mp hv)) (by rw [List.length_reverse]; omega) ?_
  rwa [List.reverse_reverse]

def Tree.depth : Tree → Nat
  | .leaf _ => 0
  | .node l r => max (Tree.depth l) (Tree.depth r) + 1

/-- what `ScriptNode.pack` can represent: every packed child is shorter than 2^16 bytes -/
def Tree.small : Tree → Prop
  | .leaf _ => True
  | .node l r => (Tree.pack l).length < 65536 ∧ (Tree.pack r).length < 65536 ∧ Tree.small l ∧ Tree.small r

def tagOf : Tree → UInt8
  | .leaf _ => 76
  | .node _ _ => 78

theorem pack_node (l r : Tree) :
    Tree.pack (.node l r) = tagOf l :: (u2 (Tree.pack l).length ++ (Tree.pack l ++ (tagOf r :: (u2 (Tree.pack r).length ++ Tree.pack r)))) := by
  rw [Tree.pack.eq_def]
  cases l <;> cases r <;> simp only [List.append_assoc] <;> rfl

/-- one node of the format read back: per child a tag, a two-byte length and that many bytes -/
theorem unpack_node {n : Nat} {lt rt : UInt8} {a b : Bytes} {l r : Tree} (ha : a.length < 65536) (hb : b.length < 65536)
    (hl : (if lt = 76 then some (.leaf a) else Tree.unpack n a) = some l)
    (hr : (if rt = 76 then some (.leaf b) else Tree.unpack n b) = some r) :
    Tree.unpack (n + 1) (lt :: (u2 a.length ++ (a ++ rt :: (u2 b.length ++ b)))) = some (.node l r) := by
  have hu2 (k : Nat) : (u2 k).length = 2 := natToBytesBE_length 2 k
  simp only [Tree.unpack, List.take_left' (hu2 _), List.drop_left' (hu2 _), u2_of_nat _ ha, u2_of_nat _ hb,
    List.take_left, List.drop_left, Nat.lt_irrefl, gt_iff_lt, ↓reduceIte, hl, hr]

/-- **C04 serialisation.** Reading back a packed tree returns the tree itself — hence the same
    root and the same unlocking script for every leaf — for every tree `pack` can represent,
    given fuel above its depth. -/
theorem unpack_pack : ∀ (fuel : Nat) (l r : Tree), Tree.small (.node l r) → Tree.depth (.node l r) ≤ fuel →
    Tree.unpack fuel (Tree.pack (.node l r)) = some (.node l r) := by
  intro fuel
  induction fuel with
  | zero => intro l r _ hd; cases hd
  | succ n ih =>
    intro l r ⟨hl, hr, hsl, hsr⟩ hd
    have child (t : Tree) (hst : Tree.small t) (hdt : Tree.depth t ≤ n) :
        (if tagOf t = 76 then some (.leaf (Tree.pack t)) else Tree.unpack n (Tree.pack t)) = some t := by
      cases t with
      | leaf s => rfl
      | node a b => exact ih a b hst hdt
    simp only [Tree.depth] at hd
    rw [pack_node]
    exact unpack_node hl hr (child l hsl (by omega)) (child r hsr (by omega))

example : Tree.unpack 3 (Tree.pack (.node (.leaf [1, 2]) (.node (.leaf [3]) (.leaf [])))) =
    some (.node (.leaf [1, 2]) (.node (.leaf [3]) (.leaf []))) := by decide

/-- Non-vacuity of `tree_run` / `unlock_run`: a three-leaf tree, the middle leaf's path and proof. -/
example : leafAt (.node (.leaf [1]) (.node (.leaf [1, 1]) (.leaf [0]))) [true, false] = some [1, 1] := rfl
example (H : Hashes) : (proofStack H (.node (.leaf [1]) (.node (.leaf [1, 1]) (.leaf [0]))) [true, false]).length = 4 := rfl

end TV.C04
