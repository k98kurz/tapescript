import Tapeverif.Model.Lex
import Batteries.Data.Char.AsciiCasing
/-!
# C11 — the tokenizer drops, duplicates and reorders nothing

`Model/Lex.lean` models `parsing.get_symbols` (compared with the implementation on every source
the C11 check generates). Proved here, for **every** word list: whenever the tokenizer succeeds,
the words of its symbols, read in order, are exactly the source's words up to letter case
(`symbols_words`) — so whatever the assembler does, it is handed every written word once, in
order; a string literal that closes within its own word (in particular the empty literal `s""`,
repair F18) is one symbol and the words after it are tokenized as if it were not there
(`closed_literal_is_one_symbol`); an open literal ends at the first word containing its quote
(`takeLit_split`); and the fuel of the model's loop is immaterial (`symbolsF_stable`).
-/
namespace TV.C11
open TV.Lex

theorem upper_idem (t : Tok) : upper (upper t) = upper t := by
  simp [upper, Char.toUpper_toUpper_eq_toUpper]

theorem takeLit_some (q : Char) (ts ps r : List Tok) (h : takeLit q ts = some (ps, r)) :
    ps ≠ [] ∧ ps ++ r = ts := by
  fun_induction takeLit q ts generalizing ps with
  | case1 => cases h
  | case2 t ts hc => cases h; exact ⟨nofun, rfl⟩
  | case3 t ts hc ps' r' hq ih => cases h; exact ⟨nofun, congrArg _ (ih ps' hq).2⟩
  | case4 => cases h

/-- an open literal's words and the rest are a split of the words that followed it -/
theorem takeLit_split (q : Char) : ∀ (ts ps r : List Tok), takeLit q ts = some (ps, r) → ps ++ r = ts :=
  fun ts ps r h => (takeLit_some q ts ps r h).2

theorem takeLit_length (q : Char) (ts ps r : List Tok) (h : takeLit q ts = some (ps, r)) : r.length < ts.length := by
  obtain ⟨hne, rfl⟩ := takeLit_some q ts ps r h
  have := List.length_pos_iff.mpr hne
  rw [List.length_append]; omega

/-- a word that is a symbol of its own is the written word up to letter case -/
theorem normWord_upper (t w : Tok) (h : normWord t = some w) : upper w = upper t := by
  -- each branch of `normWord` is `none`, `some t` or `some (upper t)`; `iteInduction` goes through
  -- the nest of tests once, where `split` is many times dearer
  let P (o : Option Tok) := ∀ w, o = some w → upper w = upper t
  have hi : P (some t) := fun _ h => Option.some.inj h ▸ rfl
  have hu {p : Prop} (_ : p) : P (some (upper t)) := fun _ h => Option.some.inj h ▸ upper_idem t
  suffices P (normWord t) from this w h
  unfold normWord
  split
  · exact hi
  · refine iteInduction hu fun _ => iteInduction hu fun _ => iteInduction hu fun _ =>
      iteInduction (fun _ => ?_) fun _ => hi
    split
    exacts [nofun, iteInduction hu fun _ => hi]

/-- One round of the tokenizer, whatever the fuel: it emits the symbols `ss`, which hold the first words, and goes on
    with the words `r`, a suffix of those that followed the first. -/
theorem symbolsF_round (t : Tok) (ts : List Tok) : ∃ o : Option (List (List Tok) × List Tok),
    (∀ n, symbolsF (n + 1) (t :: ts) = o.bind fun p => (symbolsF n p.2).map (p.1 ++ ·)) ∧
    ∀ ss r, o = some (ss, r) → ss.flatten.map upper ++ r.map upper = (t :: ts).map upper ∧ r.length ≤ ts.length := by
  -- a word that is a symbol of its own
  have own : ∃ o : Option (List (List Tok) × List Tok),
      (∀ n, (match normWord t with
        | none => none
        | some w => (symbolsF n ts).map ([w] :: ·)) = o.bind fun p => (symbolsF n p.2).map (p.1 ++ ·)) ∧
      ∀ ss r, o = some (ss, r) → ss.flatten.map upper ++ r.map upper = (t :: ts).map upper ∧ r.length ≤ ts.length := by
    cases hn : normWord t with
    | none => exact ⟨none, fun _ => rfl, nofun⟩
    | some w =>
      refine ⟨some ([[w]], ts), fun _ => rfl, fun ss r h => ?_⟩
      cases h
      exact ⟨congrArg (· :: _) (normWord_upper t w hn), Nat.le_refl _⟩
  simp only [symbolsF]
  split
  · next q body =>
    split
    · split
      · exact ⟨some ([[_]], ts), fun _ => rfl, fun ss r h => by cases h; exact ⟨rfl, Nat.le_refl _⟩⟩
      · cases hl : takeLit q ts with
        | none => exact ⟨none, fun _ => rfl, nofun⟩
        | some p =>
          obtain ⟨ps, r⟩ := p
          refine ⟨some ([_ :: ps], r), fun _ => rfl, fun ss r' h => ?_⟩
          cases h
          obtain rfl := takeLit_split q ts ps r hl
          exact ⟨by simp, by simp⟩
    · exact own
  -- `@=` and `!=` take the next word as a symbol of its own
  case h_2 | h_3 =>
    cases ts with
    | nil => exact ⟨none, fun _ => rfl, nofun⟩
    | cons t2 ts2 => exact ⟨some ([[_], [t2]], ts2), fun _ => rfl, fun ss r h => by cases h; exact ⟨rfl, Nat.le_succ _⟩⟩
  · exact own

/-- **nothing dropped, duplicated or reordered**: the words of the symbols, in order, are the
    source's words up to letter case -/
theorem symbolsF_words : ∀ (n : Nat) (ts : List Tok) (syms : List (List Tok)),
    symbolsF n ts = some syms → (syms.flatten).map upper = ts.map upper := by
  intro n
  induction n with
  | zero => intro ts syms h; cases h
  | succ n ih =>
    intro ts syms h
    cases ts with
    | nil => cases h; rfl
    | cons t ts =>
      obtain ⟨o, ho, hspec⟩ := symbolsF_round t ts
      rw [ho] at h
      obtain ⟨⟨ss, r⟩, rfl, hm⟩ := Option.bind_eq_some_iff.1 h
      obtain ⟨rest, hr, rfl⟩ := Option.map_eq_some_iff.1 hm
      rw [List.flatten_append, List.map_append, ih r rest hr, (hspec ss r rfl).1]

/-- … for a whole source text -/
theorem symbols_words (src : List Char) (syms : List (List Tok)) (h : symbols src = some syms) :
    (syms.flatten).map upper = (splitWs src []).map upper :=
  symbolsF_words _ _ _ h

/-- the loop's fuel is immaterial once it exceeds the number of words: `symbols` never fails for
    lack of fuel -/
theorem symbolsF_stable : ∀ (n m : Nat) (ts : List Tok), ts.length < n → ts.length < m →
    symbolsF n ts = symbolsF m ts := by
  intro n
  induction n with
  | zero => intro m ts h; omega
  | succ k ih =>
    intro m ts hn hm
    cases m with
    | zero => omega
    | succ j =>
      cases ts with
      | nil => simp [symbolsF]
      | cons t ts =>
        simp only [List.length_cons] at hn hm
        obtain ⟨o, ho, hspec⟩ := symbolsF_round t ts
        rw [ho, ho]
        cases o with
        | none => rfl
        | some p =>
          have := (hspec p.1 p.2 rfl).2
          simp only [Option.bind_some, ih j p.2 (by omega) (by omega)]

/-- **a literal that closes within its own word is one symbol** — in particular the empty literal
    `s""` / `s''` (repair F18): the words after it are tokenized as if it were not there -/
theorem closed_literal_is_one_symbol (n : Nat) (q : Char) (body : Tok) (ts : List Tok)
    (hq : q = '"' ∨ q = '\'') (hc : body.contains q = true) :
    symbolsF (n + 1) (('s' :: q :: body) :: ts) = (symbolsF n ts).map ([('s' :: q :: body)] :: ·) := by
  simp only [symbolsF, hq, hc, ↓reduceIte]

example : symbolsF 5 ["read_cache".toList, "s\"\"".toList, "dup".toList] =
    some [["READ_CACHE".toList], ["s\"\"".toList], ["DUP".toList]] := by decide

/-- known finding K8, as a fact about the model: whitespace inside a string literal is lost — the two
    spaces of `s"a  b"` leave no trace in the symbol (the implementation joins the words with one) -/
example : symbols "push s\"a  b\"".toList = some [["PUSH".toList], ["s\"a".toList, "b\"".toList]] ∧
    symbols "push s\"a b\"".toList = some [["PUSH".toList], ["s\"a".toList, "b\"".toList]] := by decide

/-- … and an unquoted / upper-case-prefixed string value is upper-cased like an instruction name -/
example : symbols "push shello".toList = some [["PUSH".toList], ["SHELLO".toList]] := by decide

/-- an unterminated literal, a lone `s`, a trailing `@=` are errors -/
example : symbols "push s\"abc def".toList = none ∧ symbols "push s".toList = none ∧ symbols "true @=".toList = none := by decide

end TV.C11
