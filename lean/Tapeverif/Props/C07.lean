import Tapeverif.Lemmas.VMRun
/-! # C07 — stack, item-size, call-depth, loop and tape limits

All theorems are for an **arbitrary op table** `T`: they hold for every instruction that can
be written in the `Op` vocabulary, hence for the 92 instructions of `Model/Instr.lean` and
for anything added later. Whether the Python instruction *is* its `Op` term is what the
correspondence check decides. -/
namespace TV.C07

variable (T : UInt8 → Op) (L : Limits)

/-- C07.1 the stack never holds more than `maxItems` items or an item longer than
    `maxItemSize`: on every outcome of every script run — successful or failed, and
    with the state *at the point of failure* for failed ones. -/
theorem stack_limits_script (fuel : Nat) (script : Bytes) (cache : List (CKey × CVal)) :
    StackInv L (runScript T L fuel script cache).shared :=
  (post_shared L (runTape_post T L fuel _ _ (initShared_inv L cache) rfl)).1

theorem stack_limits_auth (fuel : Nat) (scripts : List Bytes) (cache : List (CKey × CVal)) :
    StackInv L (runAuthRes T L fuel scripts cache).shared :=
  (post_shared L (runAuthRest_post T L fuel scripts 0 _ (initShared_inv L cache))).1

/-- … and from any reachable start state, for any frame (nested bodies, called functions,
    evaluated scripts are all runs of `runTape`). -/
theorem stack_limits_tape (fuel : Nat) (fr : Frame) (sh : Shared)
    (hi : StackInv L sh) (hr : sh.returned = false) :
    StackInv L (runTape T L fuel fr sh).shared :=
  (post_shared L (runTape_post T L fuel fr sh hi hr)).1

/-- C07.4 `push` is all-or-nothing: exceeding a limit is a script-execution error and leaves
    the state untouched (no silently dropped item). -/
theorem push_over_limit (fuel : Nat) (b : Bytes) (k : Op) (fr : Frame) (sh : Shared)
    (h : ¬ (b.length ≤ L.maxItemSize ∧ sh.stack.length < L.maxItems)) :
    runOp T L (fuel + 1) (.push b k) fr sh = .err (.user .see) sh :=
  if h1 : b.length ≤ L.maxItemSize then runOp_raises T (.pushFull fun h2 => h ⟨h1, h2⟩) fuel
  else runOp_raises T (.pushBig h1) fuel

/-- C07.2 an operand read that does not fit is a script-execution error; otherwise it
    consumes exactly `n` bytes forward. -/
theorem read_past_end (fuel n : Nat) (k : Bytes → Op) (fr : Frame) (sh : Shared)
    (h : fr.rest.length < n) :
    runOp T L (fuel + 1) (.read n k) fr sh = .err (.user .see) sh :=
  runOp_raises T (.read (Nat.not_le.mpr h)) fuel

/-- C07.3 a call or evaluation at the limit is a script-execution error -/
theorem call_at_limit (fuel : Nat) (h : UInt8) (k : Op) (fr : Frame) (sh : Shared)
    (hc : ¬ getCount fr sh < L.callLimit) :
    runOp T L (fuel + 1) (.call h k) fr sh = .err (.user .see) sh :=
  runOp_raises T (.call hc) fuel

theorem eval_at_limit (fuel : Nat) (p : Bool) (body : Bytes) (k : Op) (fr : Frame) (sh : Shared)
    (hc : ¬ getCount fr sh < L.callLimit) :
    runOp T L (fuel + 1) (.sub (.eval p) body k) fr sh = .err (.user .see) sh :=
  runOp_raises T (.eval hc) fuel

/-- C07.3 a loop whose iteration budget is used up and whose condition is still true is a
    script-execution error (the budget starts at `callLimit`). -/
theorem loop_budget_exhausted (fuel lc : Nat) (body : Bytes) (k : Op) (fr : Frame) (sh : Shared)
    (top : Bytes) (rest : List Bytes) (hs : sh.stack = top :: rest) (ht : truthy top = true) :
    runLoop T L (fuel + 1) 0 lc body k fr sh = .err (.user .see) sh :=
  runLoop_spent T hs ht fuel lc body k fr

/-- A successful run of any tape consumed the whole tape (no early exit other than RETURN,
    which also ends the frame). -/
theorem run_ok_consumes_tape (fuel : Nat) (fr : Frame) (sh : Shared) (fr' : Frame) (sh' : Shared)
    (h : runTape T L fuel fr sh = .ok fr' sh') : fr'.rest = [] :=
  runTape_ok_rest T L fuel fr sh fr' sh' h

/-- Non-vacuity: a concrete run that hits the item limit. -/
example : runOp (fun _ => .done) ⟨1, 1, 1⟩ 5 (.push [1, 2] .done) default
    { (default : Shared) with stack := [] } = .err (.user .see) { (default : Shared) with stack := [] } := by
  rfl

end TV.C07
