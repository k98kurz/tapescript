import Tapeverif.Lemmas.VMRun
/-! # C01 — the authorization verdict is exact; a witness cannot truncate or skip the lock

For an arbitrary op table. -/
namespace TV.C01

variable (T : UInt8 → Op) (L : Limits)

/-- C01.1 `run_auth_scripts` is true exactly when the whole list ran without an error and the
    stack then holds exactly one item equal to 0xff; it is a total Boolean function (the
    model-level "never raises"). -/
theorem runAuth_true_iff (fuel : Nat) (scripts : List Bytes) (cache : List (CKey × CVal)) :
    runAuth T L fuel scripts cache = true ↔
      ∃ fr sh, runAuthRes T L fuel scripts cache = .ok fr sh ∧ sh.stack = [[0xff]] := by
  unfold runAuth
  constructor
  · intro h
    split at h
    · next fr sh heq => exact ⟨fr, sh, heq, by simpa using h⟩
    · cases h
  · rintro ⟨fr, sh, heq, hs⟩
    rw [heq]; simp [hs]

/-- C01.2 if the list is authorized, every script of it was run from its first byte, in a
    fresh top-level frame on the shared state, and ran to its own end (`rest = []`):
    unfolding one script of the chain. -/
theorem auth_chain_step (fuel : Nat) (s : Bytes) (rest : List Bytes) (count : Nat) (sh : Shared)
    (fr' : Frame) (sh' : Shared)
    (h : runAuthRest T L fuel (s :: rest) count sh = .ok fr' sh') :
    ∃ fr1 sh1, runTape T L fuel (topFrame s count) { sh with returned := false } = .ok fr1 sh1 ∧
      (topFrame s count).rest = s ∧ fr1.rest = [] ∧
      runAuthRest T L fuel rest fr1.count sh1 = .ok fr' sh' := by
  simp only [runAuthRest] at h
  split at h
  · cases h
  · next fr1 sh1 heq =>
    exact ⟨fr1, sh1, heq, rfl, runTape_ok_rest T L fuel _ _ _ _ heq, h⟩

/-- C01.2' an error in any script makes the verdict false. -/
theorem auth_false_of_script_error (fuel : Nat) (s : Bytes) (rest : List Bytes) (count : Nat)
    (sh : Shared) (e : Err) (sh1 : Shared)
    (h : runTape T L fuel (topFrame s count) { sh with returned := false } = .err e sh1) :
    runAuthRest T L fuel (s :: rest) count sh = .err e sh1 := by
  simp only [runAuthRest, h]

/-- C01.3 a RETURN executed by an earlier script (at any depth) cannot reach a later one:
    the later scripts' run does not depend on the incoming flag. -/
theorem later_scripts_ignore_returned (fuel : Nat) (scripts : List Bytes) (count : Nat)
    (sh : Shared) (b : Bool) (hne : scripts ≠ []) :
    runAuthRest T L fuel scripts count { sh with returned := b } =
    runAuthRest T L fuel scripts count sh := by
  cases scripts with
  | nil => exact absurd rfl hne
  | cons s rest => simp only [runAuthRest]

/-- C01.4 return hygiene: in every authorization run no instruction of any frame — at any
    nesting depth, in any script of the list — is ever fetched while a RETURN is pending
    (the ghost assertion in `runTape` never fires), so a RETURN is pending only between the
    RETURN and the end of the function / evaluated script / top-level script it ends. -/
theorem no_fetch_with_return_pending (fuel : Nat) (scripts : List Bytes) (cache : List (CKey × CVal)) :
    (runAuthRes T L fuel scripts cache).isGhost = false :=
  (post_shared L (runAuthRest_post T L fuel scripts 0 _ (initShared_inv L cache))).2.2

theorem no_fetch_with_return_pending_tape (fuel : Nat) (fr : Frame) (sh : Shared)
    (hi : StackInv L sh) (hr : sh.returned = false) :
    (runTape T L fuel fr sh).isGhost = false :=
  (post_shared L (runTape_post T L fuel fr sh hi hr)).2.2

/-- and the ghost assertion is a genuine check: started with the flag set, a fetch trips it
    (so the theorem above is not vacuous). -/
example : (runTape (fun _ => .done) ⟨4, 4, 4⟩ 3 (topFrame [1] 0)
    { (default : Shared) with returned := true }).isGhost = true := by rfl

end TV.C01
