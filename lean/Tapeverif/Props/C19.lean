import Mathlib.Data.List.Induction
import Tapeverif.Model.Registry
import Tapeverif.Model.Auth
/-! # C19 — registries behave as sets; runs do not leak state -/
namespace TV.C19

open Registry

theorem run_concat (ops : List ROp) (op : ROp) : run (ops ++ [op]) = step (run ops) op := by
  simp [run]

theorem nodup_step {st : State} (h : ∀ s, (st s).Nodup) (op : ROp) (s : Nat) : (step st op s).Nodup := by
  cases op <;> simp only [step] <;> split
  · split
    · exact h _
    · next hne =>
      refine List.nodup_append.2 ⟨h _, by simp, fun a ha b hb hab => hne ?_⟩
      rwa [← List.mem_singleton.1 hb, ← hab]
  · exact h _
  · exact (h _).erase _
  · exact h _
  · exact List.nodup_nil
  · exact h _

/-- one operation changes membership as `specActive` says (for `remove` because nothing is listed twice) -/
theorem mem_step {st : State} (h : ∀ s, (st s).Nodup) (op : ROp) (rest : List ROp) (s e : Nat)
    (hm : e ∈ st s ↔ specActive rest s e = true) :
    e ∈ step st op s ↔ specActive (op :: rest) s e = true := by
  cases op with
  | add s' e' =>
    by_cases hs : s' = s
    · subst hs
      have : e ∈ step st (.add s' e') s' ↔ e' = e ∨ e ∈ st s' := by
        simp only [step, if_pos]
        split
        · exact ⟨.inr, fun h => h.elim (· ▸ ‹_›) id⟩
        · simp [or_comm, eq_comm]
      rw [this, hm]
      by_cases he : e' = e <;> simp [specActive, he]
    · simp [step, specActive, hs, Ne.symm hs, hm]
  | remove s' e' =>
    by_cases hs : s' = s
    · subst hs
      by_cases he : e' = e
      · simp [step, specActive, (h s').mem_erase_iff, he]
      · simp [step, specActive, (h s').mem_erase_iff, he, Ne.symm he, hm]
    · simp [step, specActive, hs, Ne.symm hs, hm]
  | reset s' =>
    by_cases hs : s' = s
    · simp [step, specActive, hs]
    · simp [step, specActive, hs, Ne.symm hs, hm]

/-- invariant + refinement, for every reachable registry state: no entry is listed twice, and
    an entry is listed iff the set specification says it is active -/
theorem run_refines_spec (ops : List ROp) :
    (∀ s, (run ops s).Nodup) ∧ (∀ s e, e ∈ run ops s ↔ specActive ops.reverse s e = true) := by
  induction ops using List.reverseRecOn with
  | nil => exact ⟨fun _ => List.nodup_nil, fun _ _ => by simp [run, init, specActive]⟩
  | append_singleton ops op ih =>
    rw [run_concat, List.reverse_append]
    exact ⟨nodup_step ih.1 op, fun s e => mem_step ih.1 op _ s e (ih.2 s e)⟩

/-- an operation on one scope leaves every other scope's registry unchanged -/
theorem scopes_independent (st : State) (op : ROp) (s : Nat)
    (h : match op with | .add s' _ => s' ≠ s | .remove s' _ => s' ≠ s | .reset s' => s' ≠ s) :
    step st op s = st s := by
  cases op <;> exact if_neg (Ne.symm h)

/-- runs have no history by type: the result of running scripts is a function of the arguments
    (script list, cache, op table = configuration + registry contents handed to the run) only -/
theorem run_is_function_of_arguments (T : UInt8 → Op) (L : Limits) (fuel : Nat) (scripts : List Bytes)
    (cache : List (CKey × CVal)) (r1 r2 : Bool)
    (h1 : runAuth T L fuel scripts cache = r1) (h2 : runAuth T L fuel scripts cache = r2) : r1 = r2 := by
  rw [← h1, ← h2]

/-- Non-vacuity: add, add again, remove, add in another scope. -/
example : run [.add 0 7, .add 0 7, .add 1 7, .remove 0 7] 0 = [] ∧ run [.add 0 7, .add 0 7, .add 1 7, .remove 0 7] 1 = [7] := by
  decide

end TV.C19
