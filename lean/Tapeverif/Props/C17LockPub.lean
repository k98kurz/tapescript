import Tapeverif.Props.C17Locks
/-!
# C17 — the single-script adapter lock (`make_adapter_lock_pub`), executed

The deprecated one-script form: the witness pushes `t`, `sa`, `R`; the lock stores them in cache
variables, checks the adapter `(sa, R)` against the key and the tweak point, decrypts it with `t`
and checks the decrypted signature `RT ‖ s` (with the flag byte appended when the flags are not 00 —
repair F16). Executed symbolically here for the flags-00 form and the flagged form alike: an adapter
that fails the check ends the lock in the VERIFY error before anything is decrypted; one that passes
makes the lock end with exactly the C02 outcome of `RT ‖ s [‖ flag]` under the key.
-/
namespace TV.C17
open Tools

variable (H : Hashes) (C : Curve) (cfg : Cfg)

theorem run_concat (fr : Frame) (sh : Shared) (rest' : Bytes) (second first : Bytes) (st : List Bytes) (r : Res)
    (hrest : fr.rest = CONCAT ++ rest') (hcap : fr.len0 < fr.cap) (hr : sh.returned = false)
    (hs : sh.stack = second :: first :: st) (hsz : (first ++ second).length ≤ cfg.lim.maxItemSize) (hroom : st.length < cfg.lim.maxItems)
    (h : TSteps (instrTable H C cfg) cfg.lim { fr with rest := rest' } { sh with stack := (first ++ second) :: st } r) :
    TSteps (instrTable H C cfg) cfg.lim fr sh r :=
  run_instr fr _ sh _ 55 rest' r hrest hcap hr (.opConcat hs hsz hroom (.done _ _)) h

/-- the three cache variables the lock writes, on top of the embedder's cache -/
def varCache (cache : List (CKey × CVal)) (Rp sa t0 : Bytes) : List (CKey × CVal) :=
  (CKey.byt (asciiBytes "t"), CVal.list [Atom.bytes t0]) ::
  (CKey.byt (asciiBytes "sa"), CVal.list [Atom.bytes sa]) ::
  (CKey.byt (asciiBytes "R"), CVal.list [Atom.bytes Rp]) :: cache

/-- the lock's bytes up to and including the first CONCAT -/
def lockPubFront (pk Tp : Bytes) (flags : Nat) : Bytes :=
  writeCache "R" 1 ++ (writeCache "sa" 1 ++ (writeCache "t" 1 ++
  (readCache "sa" ++ (readCache "R" ++ (GET_MESSAGE flags ++ (pushB Tp ++ (pushB pk ++ (CHECK_ADAPTER_SIG ++ (opc VERIFY ++
  (readCache "sa" ++ (readCache "R" ++ (readCache "t" ++ (DECRYPT_ADAPTER_SIG ++ CONCAT)))))))))))))

theorem adapterLockPub_split (pk Tp : Bytes) (flags : Nat) :
    adapterLockPub pk Tp flags =
      lockPubFront pk Tp flags ++ ((if flags = 0 then [] else pushB [UInt8.ofNat flags] ++ CONCAT) ++ (pushB pk ++ CHECK_SIG flags)) := by
  simp only [adapterLockPub, lockPubFront, List.append_assoc]

/-- the front part in front of `rest`, its middle being the first lock of `make_adapter_locks_pub` -/
theorem lockPubFront_append (pk Tp : Bytes) (flags : Nat) (rest : Bytes) :
    lockPubFront pk Tp flags ++ rest =
      writeCache "R" 1 ++ (writeCache "sa" 1 ++ (writeCache "t" 1 ++ (readCache "sa" ++ (readCache "R" ++
      (adapterLock1 pk Tp flags ++ (opc VERIFY ++
      (readCache "sa" ++ (readCache "R" ++ (readCache "t" ++ (DECRYPT_ADAPTER_SIG ++ (CONCAT ++ rest))))))))))) := by
  simp only [lockPubFront, adapterLock1, List.append_assoc]

section rules
variable {H C cfg} {fr : Frame} {sh : Shared} {k : Nat} {rest : Bytes} {st : List Bytes} {wr : Written} {P : Res → Prop}

/-- the three cache variables the lock writes -/
def varWritten (Rp sa t0 : Bytes) (wr : Written) : Written :=
  (asciiBytes "t", .list [.bytes t0]) :: (asciiBytes "sa", .list [.bytes sa]) :: (asciiBytes "R", .list [.bytes Rp]) :: wr

theorem varCache_eq (cache : Cache) (Rp sa t0 : Bytes) : varCache cache Rp sa t0 = written (varWritten Rp sa t0 []) cache := rfl

/-- the lock up to the adapter check, the check's verdict being `b`: `R`, `sa`, `t` are stored, and the first lock of
    `make_adapter_locks_pub` runs on `R`, `sa` read back -/
theorem Run.lockPubCheck (hno : cfg.sigExts = []) {pk Tp Rp sa t0 m : Bytes} {flags : Nat} {b : Bool}
    (hpk : pk.length = 32) (hT : Tp.length = 32) (hfl : flags < 256)
    (hR : Rp.length ≤ cfg.lim.maxItemSize) (hsa : sa.length ≤ cfg.lim.maxItemSize)
    (hm : SigPure.message flags sh.cache = .ok m) (hmsz : m.length ≤ cfg.lim.maxItemSize) (h32 : 32 ≤ cfg.lim.maxItemSize)
    (hc : adapterCheck H C pk Tp m Rp sa = .ok b)
    (h : Run H C cfg fr sh (k + 4) rest (boolBytes b :: st) (varWritten Rp sa t0 wr) P) :
    Run H C cfg fr sh (k + 2) (writeCache "R" 1 ++ (writeCache "sa" 1 ++ (writeCache "t" 1 ++ (readCache "sa" ++ (readCache "R" ++
      (Tools.adapterLock1 pk Tp flags ++ rest)))))) (Rp :: sa :: t0 :: st) wr P :=
  Run.writeCache varName_R <| Run.writeCache varName_sa <| Run.writeCache varName_t <|
    Run.readCache varName_sa rfl hsa <| Run.readCache varName_R rfl hR <| Run.adapterLock1 hno hpk hT hfl hm hmsz h32
      (fun _ hb => by cases hc.symm.trans hb; exact h) (fun _ he => nomatch hc.symm.trans he)

/-- **the front part with an adapter that passes, in front of any tape**: the run goes on behind the
    first CONCAT with the decrypted pair concatenated on the stack -/
theorem Run.lockPubFront (hno : cfg.sigExts = []) {pk Tp Rp sa t0 m t Tq RT s : Bytes} {flags : Nat}
    (hpk : pk.length = 32) (hT : Tp.length = 32) (hfl : flags < 256)
    (hR : Rp.length ≤ cfg.lim.maxItemSize) (hsa : sa.length ≤ cfg.lim.maxItemSize) (ht0 : t0.length ≤ cfg.lim.maxItemSize)
    (hm : SigPure.message flags sh.cache = .ok m) (hmsz : m.length ≤ cfg.lim.maxItemSize) (h32 : 32 ≤ cfg.lim.maxItemSize)
    (hc : adapterCheck H C pk Tp m Rp sa = .ok true)
    (ht : Sodium.clampScalar t0 false = .ok t) (hTq : Sodium.derivePoint C t = .ok Tq)
    (hRT : Sodium.aggregatePoints C [Rp, Tq] = .ok RT) (hsum : Sodium.scalarAdd sa t = .ok s)
    (hsig : (RT ++ s).length ≤ cfg.lim.maxItemSize)
    (h : Run H C cfg fr sh (k + 4) rest ((RT ++ s) :: st) (decWritten cfg RT s ++ varWritten Rp sa t0 wr) P) :
    Run H C cfg fr sh (k + 2) (lockPubFront pk Tp flags ++ rest) (Rp :: sa :: t0 :: st) wr P := by
  rw [List.length_append] at hsig
  rw [lockPubFront_append]
  exact Run.lockPubCheck hno hpk hT hfl hR hsa hm hmsz h32 hc <| Run.verify rfl (fun _ =>
    Run.readCache varName_sa rfl hsa <| Run.readCache varName_R rfl hR <| Run.readCache varName_t rfl ht0 <|
    Run.decryptAdapterSig ht hTq hRT hsum (by omega) (by omega) <| Run.concat (by rw [List.length_append]; omega) h) nofun

/-- `make_adapter_lock_pub` appends the flag byte to the decrypted signature unless the flags are 00 -/
theorem Run.appendFlag {x : Bytes} {flags : Nat} (hsz : x.length + 1 ≤ cfg.lim.maxItemSize)
    (h : Run H C cfg fr sh (k + 1) rest ((x ++ if flags = 0 then [] else [UInt8.ofNat flags]) :: st) wr P) :
    Run H C cfg fr sh (k + 1) ((if flags = 0 then [] else pushB [UInt8.ofNat flags] ++ CONCAT) ++ rest) (x :: st) wr P := by
  split
  · rw [if_pos ‹_›, List.append_nil] at h
    exact h
  · rw [if_neg ‹_›] at h
    rw [List.append_assoc]
    exact Run.pushB Nat.one_pos (by simp) (by show 1 ≤ _; omega) <| Run.concat (by rw [List.length_append]; exact hsz) h

end rules

/-- the first half of the lock: store the three items, read `sa`, `R` back, build the message, push
    point and key, check the adapter, VERIFY. A failing adapter ends the lock here. -/
theorem adapterLockPub_rejects (hno : cfg.sigExts = []) (pk Tp Rp sa t0 m : Bytes) (flags : Nat) (st : List Bytes)
    (sh : Shared) (count : Nat)
    (hpk : pk.length = 32) (hT : Tp.length = 32) (hfl : flags < 256)
    (hs : sh.stack = Rp :: sa :: t0 :: st) (hr : sh.returned = false)
    (hR : Rp.length ≤ cfg.lim.maxItemSize) (hsa : sa.length ≤ cfg.lim.maxItemSize)
    (hm : SigPure.message flags sh.cache = .ok m) (hmsz : m.length ≤ cfg.lim.maxItemSize)
    (h32 : 32 ≤ cfg.lim.maxItemSize) (hroom : st.length + 5 ≤ cfg.lim.maxItems)
    (hc : adapterCheck H C pk Tp m Rp sa = .ok false) :
    TSteps (instrTable H C cfg) cfg.lim (topFrame (adapterLockPub pk Tp flags) count) sh
      (.err (.user .see) { sh with stack := st, cache := varCache sh.cache Rp sa t0 }) :=
  Ends.tsteps <| Run.top 2 ((adapterLockPub_split ..).trans (lockPubFront_append ..)) hs hr (by slots) <|
    Run.lockPubCheck hno hpk hT hfl hR hsa hm hmsz h32 hc <| Run.verify rfl nofun fun _ => rfl

/-- the front part with an adapter that passes: from any frame whose tape starts with it, the run
    continues behind the first CONCAT with the decrypted pair concatenated on the stack -/
theorem lockPubFront_run (hno : cfg.sigExts = []) (pk Tp Rp sa t0 m t Tq RT s tl : Bytes) (flags : Nat) (st : List Bytes)
    (fr : Frame) (sh : Shared) (r : Res)
    (hrest : fr.rest = lockPubFront pk Tp flags ++ tl) (hcap : fr.len0 < fr.cap)
    (hpk : pk.length = 32) (hT : Tp.length = 32) (hfl : flags < 256)
    (hs : sh.stack = Rp :: sa :: t0 :: st) (hr : sh.returned = false)
    (hR : Rp.length ≤ cfg.lim.maxItemSize) (hsa : sa.length ≤ cfg.lim.maxItemSize) (ht0 : t0.length ≤ cfg.lim.maxItemSize)
    (hm : SigPure.message flags sh.cache = .ok m) (hmsz : m.length ≤ cfg.lim.maxItemSize)
    (h32 : 32 ≤ cfg.lim.maxItemSize) (hroom : st.length + 5 ≤ cfg.lim.maxItems)
    (hc : adapterCheck H C pk Tp m Rp sa = .ok true)
    (ht : Sodium.clampScalar t0 false = .ok t) (hTq : Sodium.derivePoint C t = .ok Tq)
    (hRT : Sodium.aggregatePoints C [Rp, Tq] = .ok RT) (hsum : Sodium.scalarAdd sa t = .ok s)
    (hsig : (RT ++ s).length ≤ cfg.lim.maxItemSize)
    (h : TSteps (instrTable H C cfg) cfg.lim { fr with rest := tl }
          { sh with stack := (RT ++ s) :: st, cache := decCache cfg (varCache sh.cache Rp sa t0) RT s } r) :
    TSteps (instrTable H C cfg) cfg.lim fr sh r := by
  rw [varCache_eq, decCache_written] at h
  exact Ends.tsteps <| Run.ends 2 hrest hs hcap hr (by slots) <|
    Run.lockPubFront hno hpk hT hfl hR hsa ht0 hm hmsz h32 hc ht hTq hRT hsum hsig <| Run.exact ⟨r, h, rfl⟩

/-- **C17, the single-script adapter lock, an adapter that passes.** The lock ends with exactly the
    C02 outcome of the decrypted pair `RT ‖ s` — with the flag byte appended when the lock's flags
    are not 00 — under the key: true iff that is a signature by the key over the flag-selected
    sigfields. The group-level theorems say it is one whenever `t` is the scalar of `T`. -/
theorem adapterLockPub_accepts (hno : cfg.sigExts = []) (pk Tp Rp sa t0 m t Tq RT s : Bytes) (flags : Nat) (st : List Bytes)
    (sh : Shared) (count : Nat)
    (hpk : pk.length = 32) (hT : Tp.length = 32) (hfl : flags < 256)
    (hs : sh.stack = Rp :: sa :: t0 :: st) (hr : sh.returned = false)
    (hR : Rp.length ≤ cfg.lim.maxItemSize) (hsa : sa.length ≤ cfg.lim.maxItemSize) (ht0 : t0.length ≤ cfg.lim.maxItemSize)
    (hm : SigPure.message flags sh.cache = .ok m) (hmsz : m.length ≤ cfg.lim.maxItemSize)
    (h32 : 32 ≤ cfg.lim.maxItemSize) (hroom : st.length + 5 ≤ cfg.lim.maxItems)
    (hc : adapterCheck H C pk Tp m Rp sa = .ok true)
    (ht : Sodium.clampScalar t0 false = .ok t) (hTq : Sodium.derivePoint C t = .ok Tq)
    (hRT : Sodium.aggregatePoints C [Rp, Tq] = .ok RT) (hsum : Sodium.scalarAdd sa t = .ok s)
    (hsig : (RT ++ s).length + 1 ≤ cfg.lim.maxItemSize) :
    Ends (instrTable H C cfg) cfg.lim (topFrame (adapterLockPub pk Tp flags) count) sh
      (fun r => Res.summary r =
        (match SigPure.checkSig H C cfg.lim.maxItemSize sh.cache flags
                 (RT ++ s ++ (if flags = 0 then [] else [UInt8.ofNat flags])) pk with
         | .ok b => .ok (boolBytes b :: st)
         | .error e => .error (.user e))) :=
  Run.top 2 (adapterLockPub_split ..) hs hr (by slots) <|
    Run.lockPubFront hno hpk hT hfl hR hsa ht0 hm hmsz h32 hc ht hTq hRT hsum (by omega) <| Run.appendFlag hsig <|
    Run.pushKey hpk (by omega) <| Run.checkSig_last hno hfl (by omega) fun _ h => h

end TV.C17
