import Tapeverif.Lemmas.Asm
import Tapeverif.Model.Tools
import Tapeverif.Gen.Tables
/-! # C11 — the documented encoding: nothing dropped, duplicated or reordered; PUSH is minimal

The reference assembler is `encodeSeq`. The tokenizer is modelled (`Model/Lex.lean`) and what is
proved of it, for every word list, is in `Props/C11Lex.lean`; the parser that turns symbols into
instructions is not modelled: source *texts* are tied to `encodeSeq` differentially
(`harness/props/c11.py`). -/
namespace TV.C11

open Asm

/-- C11.1 the encoding of a program is the concatenation, in order, of the encodings of its
    instructions. -/
theorem encode_append (p q : List Instr) : encodeSeq (p ++ q) = encodeSeq p ++ encodeSeq q := by
  simp [encodeSeq]

/-- C11.2a the operands of a well-formed instruction decode back to exactly its fields -/
theorem decode_encode_operands (c : UInt8) (fs : List Bytes) (rest : Bytes)
    (hwf : wellFormed ⟨c, fs⟩ = true) :
    decodeOperands c (encodeOperands c fs ++ rest) = some (fs, rest) :=
  decodeOperands_eq_some.2 ⟨rfl, hwf⟩

/-- C11.2 the bytecode determines the program: decoding the documented encoding of well-formed
    instructions gives the same instructions back, in order. -/
theorem decode_encode_seq : ∀ (is : List Instr) (fuel : Nat), (∀ i ∈ is, wellFormed i = true) →
    (encodeSeq is).length ≤ fuel → decodeSeq fuel (encodeSeq is) = some is :=
  fun is _ hwf hlen =>
    decodeSeq_eq_some.2 ⟨Nat.le_trans (length_le_encodeSeq_length is) hlen, rfl, hwf⟩

/-- C11.3 `push` selects the smallest push instruction that fits: PUSH0 iff 1 byte, PUSH1 iff
    2 … 255 bytes, PUSH2 iff 256 … 65535 bytes; the empty value and ≥ 65536 bytes are rejected. -/
theorem push_minimal (v : Bytes) :
    (v.length = 1 → Tools.pushBytes v = some (2 :: v)) ∧
    (1 < v.length ∧ v.length < 256 → Tools.pushBytes v = some (3 :: (natToBytesBE 1 v.length ++ v))) ∧
    (255 < v.length ∧ v.length < 65536 → Tools.pushBytes v = some (4 :: (natToBytesBE 2 v.length ++ v))) ∧
    (v.length = 0 ∨ 65536 ≤ v.length → Tools.pushBytes v = none) := by
  unfold Tools.pushBytes
  refine ⟨fun h => ?_, fun h => ?_, fun h => ?_, fun h => ?_⟩
  · rw [if_pos h]; rfl
  · rw [if_neg (by omega), if_pos h]; rfl
  · rw [if_neg (by omega), if_neg (by omega), if_pos h]; rfl
  · rw [if_neg (by omega), if_neg (by omega), if_neg (by omega)]

/-- … and what `push` emits decodes as that push instruction carrying exactly `v`. -/
theorem push_decodes (v e : Bytes) (h : Tools.pushBytes v = some e) :
    ∃ c, decodeNext e = some (⟨c, [v]⟩, []) := by
  -- in each case `e` is, by computation, `encodeInstr ⟨c, [v]⟩`, and the case's bound on
  -- `v.length` is, by computation, `wellFormed ⟨c, [v]⟩`
  have key (c : UInt8) (hwf : wellFormed ⟨c, [v]⟩ = true) :
      decodeNext (encodeInstr ⟨c, [v]⟩) = some (⟨c, [v]⟩, []) :=
    decodeNext_eq_some.2 ⟨(List.append_nil _).symm, hwf⟩
  unfold Tools.pushBytes at h
  split at h
  · next h1 => cases h; exact ⟨2, key 2 (decide_eq_true h1)⟩
  split at h
  · next h2 => cases h; exact ⟨3, key 3 (decide_eq_true h2.2)⟩
  split at h
  · next h3 => cases h; exact ⟨4, key 4 (decide_eq_true h3.2)⟩
  · cases h

/-- table obligation: for every op name the compiler's operand encoder class equals the model's
    layout (regenerated from /repo's `get_args` / `parse_next` on this run) -/
theorem compiler_classes_match :
    Gen.opcodes.all (fun (c, n) =>
      ((Gen.compilerClass.find? (·.1 = n)).map (·.2)) = some (kindOf c).name) = true := by
  simp only [decide_eq_via strKey]
  decide +kernel

/-- every alias resolves to an assigned opcode name -/
theorem aliases_resolve :
    Gen.aliases.all (fun (_, full) => Gen.opcodes.any (fun (_, n) => n = full)) = true := by
  simp only [decide_eq_via strKey]
  decide +kernel

end TV.C11
