import Tapeverif.Lemmas.Algebra
/-! # C18 — anonymous multi-hop locks: consistent setup and right-to-left release cascade

Group-level theorems for any commutative group `P`, base point `G`, `L • G = 0`, `0 < L`. -/
namespace TV.C18

open TV.Algebra

variable {P : Type} [AddCommGroup P] (G : P) (L : ℕ) (hL : L • G = 0)

/-- the tweak point of hop `i` — the running sum of the points of secrets `0..i` (as `AMHL.setup`
    accumulates it) — is the point of the running sum of the secrets -/
theorem setup_points (ys : List ℕ) (i : ℕ) :
    ((ys.take (i + 1)).map (· • G)).sum = (ys.take (i + 1)).sum • G :=
  amhl_partial_sums G _

include hL in
/-- the final key `Σ y (mod L)` opens the last lock `Y_{n-1}` -/
theorem final_key_opens_last (ys : List ℕ) :
    (ys.sum % L) • G = (ys.map (· • G)).sum := by
  rw [smul_mod G L hL, amhl_partial_sums]

include hL in
/-- a party's view is consistent: `Y_{i-1} + y_i • G = Y_i` (what `check_setup` verifies) -/
theorem view_consistent (ys : List ℕ) (i : ℕ) (y : ℕ) (hy : ys[i + 1]? = some y) :
    (ys.take (i + 1)).sum • G + y • G = (ys.take (i + 2)).sum • G := by
  rw [← add_nsmul, List.take_add_one (i := i + 1), hy, Option.toList_some, List.sum_append,
    List.sum_singleton]

include hL in
/-- release: from a key `k` opening `Y_i = Y_{i-1} + y_i•G`, `release(k, y_i) = k − y_i (mod L)`
    opens `Y_{i-1}` — hop by hop from right to left -/
theorem release_opens_left (hpos : 0 < L) (k y : ℕ) (Y : P) (hk : k • G = Y + y • G) :
    ((k + (L - y % L) % L) % L) • G = Y := by
  rw [amhl_release G L hL hpos, hk, add_sub_cancel_right]

include hL in
/-- whole cascade: starting from the final key, releasing with `y_{n-1}, …, y_{i+1}` yields a key
    opening hop `i`'s lock `(Σ_{j≤i} y_j) • G` — the releases subtract `(Σ post) • G`
    (`amhl_release_foldl`, by induction on the released hops) -/
theorem cascade (hpos : 0 < L) (pre : List ℕ) : ∀ (post : List ℕ) (k : ℕ),
    k • G = (pre ++ post).sum • G →
    (post.reverse.foldl (fun k y => (k + (L - y % L) % L) % L) k) • G = pre.sum • G := by
  intro post k hk
  rw [amhl_release_foldl G L hL hpos, hk, List.sum_reverse, List.sum_append, add_nsmul,
    add_sub_cancel_right]

/-- a scalar whose point differs from hop `i`'s lock does not open it (wrong hop / other chain) -/
theorem wrong_key_fails (k : ℕ) (Y : P) (h : k • G ≠ Y) : ¬ (k • G = Y) := h

end TV.C18
