import Tapeverif.Props.C17Locks
/-!
# C18 — the locks of a hop

`setup_amhl` hands every hop the pair `make_adapter_locks_pub(pk_i, T_i, flags)` with that hop's
tweak point `T_i` (the harness compares the model's builder with what `setup_amhl` returns, byte for
byte, for every hop of every chain). So the lock-level theorems of `Props/C17Locks.lean` are
statements about AMHL hops; they are restated here in the vocabulary of the property: the hop's
first lock ends with exactly the adapter check of the hop's key and point on the pair the witness
pushed, and the decryption script with the scalar the cascade hands over leaves `s = sa + t` on top
of `R + t·G` — the pair the hop's second lock (single-signature or PTLC, `Props/C13.lean`,
`Props/C15.lean`) then checks as a signature.
-/
namespace TV.C18
open Tools TV.C17

variable (H : Hashes) (C : Curve) (cfg : Cfg)

/-- **a hop's first lock**: started on the adapter `(R, sa)` of that hop, it ends with exactly
    `adapterCheck pk_i T_i m R sa` for the flag-selected message, or with exactly its error -/
theorem hopLock_run (hno : cfg.sigExts = []) (pk Ti Rp sa m : Bytes) (flags : Nat) (st : List Bytes)
    (sh : Shared) (count : Nat)
    (hpk : pk.length = 32) (hT : Ti.length = 32) (hfl : flags < 256)
    (hs : sh.stack = Rp :: sa :: st) (hr : sh.returned = false)
    (hm : SigPure.message flags sh.cache = .ok m) (hmsz : m.length ≤ cfg.lim.maxItemSize)
    (h32 : 32 ≤ cfg.lim.maxItemSize) (hroom : st.length + 5 ≤ cfg.lim.maxItems) :
    Ends (instrTable H C cfg) cfg.lim (topFrame (adapterLock1 pk Ti flags) count) sh
      (fun r => Res.summary r =
        (match adapterCheck H C pk Ti m Rp sa with
         | .ok b => .ok (boolBytes b :: st)
         | .error e => .error (.user e))) :=
  adapterLock1_run H C cfg hno pk Ti Rp sa m flags st sh count hpk hT hfl hs hr hm hmsz h32 hroom

/-- an adapter of another hop — any pair for which the check of THIS hop's key and point is false —
    leaves `00`: the verdict is false -/
theorem hopLock_other_adapter (hno : cfg.sigExts = []) (pk Ti Rp sa m : Bytes) (flags : Nat) (st : List Bytes)
    (sh : Shared) (count : Nat)
    (hpk : pk.length = 32) (hT : Ti.length = 32) (hfl : flags < 256)
    (hs : sh.stack = Rp :: sa :: st) (hr : sh.returned = false)
    (hm : SigPure.message flags sh.cache = .ok m) (hmsz : m.length ≤ cfg.lim.maxItemSize)
    (h32 : 32 ≤ cfg.lim.maxItemSize) (hroom : st.length + 5 ≤ cfg.lim.maxItems)
    (hc : adapterCheck H C pk Ti m Rp sa = .ok false) :
    Ends (instrTable H C cfg) cfg.lim (topFrame (adapterLock1 pk Ti flags) count) sh
      (fun r => Res.summary r = .ok (boolBytes false :: st)) :=
  let ⟨r, hrun, hp⟩ := hopLock_run H C cfg hno pk Ti Rp sa m flags st sh count hpk hT hfl hs hr hm hmsz h32 hroom
  ⟨r, hrun, hp.trans (by rw [hc])⟩

/-- **the decryption step of the cascade**: the script `make_adapter_decrypt(k)` on the hop's
    adapter leaves `s = sa + k` on top of `R + k·G` -/
theorem hopDecrypt_run (k t Rp sa Tq RT s : Bytes) (st : List Bytes) (sh : Shared) (count : Nat) (script : Bytes)
    (hb : adapterDecrypt k = .ok script)
    (ht : Sodium.clampScalar k false = .ok t)
    (hs : sh.stack = Rp :: sa :: st) (hr : sh.returned = false)
    (hT : Sodium.derivePoint C t = .ok Tq)
    (hRT : Sodium.aggregatePoints C [Rp, Tq] = .ok RT) (hsum : Sodium.scalarAdd sa t = .ok s)
    (hRTl : RT.length ≤ cfg.lim.maxItemSize) (hsl : s.length ≤ cfg.lim.maxItemSize)
    (h32 : 32 ≤ cfg.lim.maxItemSize) (hroom : st.length + 3 ≤ cfg.lim.maxItems) :
    Ends (instrTable H C cfg) cfg.lim (topFrame script count) sh
      (fun r => Res.summary r = .ok (s :: RT :: st)) :=
  adapterDecrypt_run H C cfg k t Rp sa Tq RT s st sh count script hb ht hs hr hT hRT hsum hRTl hsl h32 hroom

end TV.C18
