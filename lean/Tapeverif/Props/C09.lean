import Tapeverif.Lemmas.Exec
/-! # C09 — embedder configuration applies uniformly at every nesting level

In the model the configuration (`Cfg`: flags, thresholds, plugins, contracts, limits) is a
read-only parameter closed over by the op table; the interpreter hands the *same* table and
limits to every nested run (IF / ELSE / TRY / EXCEPT / LOOP bodies, called functions,
evaluated scripts), and `Shared`/`Frame` contain no configuration. Uniformity is therefore
structural; what is stated here is (i) that structure, as equations a reader can check,
(ii) the exact behaviour of the two flag instructions (known finding K2), and (iii) that the
signature-extension plugins run exactly once, first, in every signature-related instruction. -/
namespace TV.C09

open Instr

variable (H : Hashes) (C : Curve) (cfg : Cfg)

/-- (i) every nested run uses the table and limits of the top-level run: the body of an IF /
    ELSE / TRY is run by the very same `runTape T L`. -/
theorem nested_body_uses_same_table (T : UInt8 → Op) (L : Limits) (n : Nat) (body : Bytes) (k : Op)
    (fr : Frame) (sh : Shared) :
    runOp T L (n+1) (.sub .inline body k) fr sh =
      (match runTape T L n { rest := body, count := getCount fr sh, fn := none, dict := (copyDict sh fr.dict).1,
                             len0 := body.length, cap := fr.len0 } (copyDict sh fr.dict).2 with
       | .err e sh' => .err e sh'
       | .ok _ sh' => if sh'.returned then .ok (endFrame fr) sh' else runOp T L n k fr sh') :=
  runOp_inline T n body k fr sh

/-- (ii) K2: `OP_SET_FLAG` never sets anything — with its operands present it always ends in a
    script-execution error (the bytes operand is compared with int / str keys). -/
theorem setFlag_always_errors (T : UInt8 → Op) (L : Limits) (n : Nat) (k : Op) (fr : Frame) (sh : Shared)
    (len : UInt8) (rest : Bytes) (hr : fr.rest = len :: rest) (hl : len.toNat ≤ rest.length) :
    runOp T L (n+3) (opSetFlag k) fr sh = .err (.user .see) sh :=
  (runOp_readLenPrefixed T L (n+1) _ fr sh len rest hr hl).trans (runOp_fail T L n _ _ _)

/-- (ii) K2: `OP_UNSET_FLAG` consumes its operands and changes nothing — no flag is unset. -/
theorem unsetFlag_is_noop (T : UInt8 → Op) (L : Limits) (n : Nat) (k : Op) (fr : Frame) (sh : Shared)
    (len : UInt8) (rest : Bytes) (hr : fr.rest = len :: rest) (hl : len.toNat ≤ rest.length) :
    runOp T L (n+2) (opUnsetFlag k) fr sh =
      runOp T L n k { fr with rest := rest.drop len.toNat } sh :=
  runOp_readLenPrefixed T L n _ fr sh len rest hr hl

/-- the tags the plugins of a list log, in order, up to the first one that raises -/
def logTags : List SigExt → List Nat
  | [] => []
  | .log t :: r => t :: logTags r
  | .raise :: _ => []

def allLog : List SigExt → Bool
  | [] => true
  | .log _ :: r => allLog r
  | .raise :: _ => false

/-- (iii) the signature-extension prelude of a configuration whose plugins only log: one log
    entry per installed plugin, in order, then the instruction proper. -/
theorem runSigExts_logs (T : UInt8 → Op) (L : Limits) : ∀ (exts : List SigExt) (n : Nat) (k : Op)
    (fr : Frame) (sh : Shared), allLog exts = true →
    runOp T L (n + exts.length) (runSigExts exts k) fr sh =
      runOp T L n k fr { sh with plog := (logTags exts).reverse ++ sh.plog } := by
  intro exts
  induction exts with
  | nil => intro n k fr sh _; simp [runSigExts, logTags]
  | cons e r ih =>
    intro n k fr sh h
    cases e with
    | raise => simp [allLog] at h
    | log t =>
      simp only [runSigExts, List.length_cons]
      rw [show n + (r.length + 1) = (n + r.length) + 1 by omega]
      rw [runOp_prim T .log, ih n k fr _ (by simpa [allLog] using h)]
      simp [logTags, List.append_assoc]

/-- every signature-related instruction starts with exactly that prelude (CHECK_TEMPLATE when
    flag 10 is on, its default) -/
theorem sig_instructions_run_extensions_first (k : Op) :
    opGetMessage cfg k = sigExt cfg (readU1 fun flag => getMessageCore flag k) ∧
    opCheckSig H C cfg k = sigExt cfg (readU1 fun allowed => checkSigCore H C allowed k) ∧
    opCheckSigVerify H C cfg k = sigExt cfg (readU1 fun allowed => checkSigCore H C allowed (opVerify k)) ∧
    (∃ body, opCheckMultisig H C cfg k = sigExt cfg body) ∧
    (∃ body, opSign H C cfg k = sigExt cfg body) ∧
    (cfg.flag10 = true → ∃ body, opCheckTemplate cfg k = sigExt cfg body) := by
  refine ⟨rfl, rfl, rfl, ⟨_, rfl⟩, ⟨_, rfl⟩, ?_⟩
  intro h
  unfold opCheckTemplate
  simp only [h, ↓reduceIte]
  exact ⟨_, rfl⟩

end TV.C09
