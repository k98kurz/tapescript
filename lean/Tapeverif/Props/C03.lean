import Tapeverif.Lemmas.Greedy
import Tapeverif.Lemmas.MsRefine
/-! # C03 — multisig passes only with m valid signatures from m different listed keys

`SigPure.multisig` is the specification of OP_CHECK_MULTISIG on the popped signature and key
lists, compared with the implementation directly on every run. The VM's `Op` term computes it
(`checkMultisig_instruction`, by symbolic execution) and is itself compared with the implementation
through the RUN stream. `Hashes` / `Curve` are arbitrary. -/
namespace TV.C03

open SigPure Greedy

variable (H : Hashes) (C : Curve) (mis : Nat) (cache : List (CKey × CVal)) (allowed : Nat)

/-- "signature `s` is valid under key `k`" in the sense of C02 -/
def valid (s k : Bytes) : Bool :=
  match checkSig H C mis cache allowed s k with
  | .ok b => b
  | .error _ => false

/-- every (signature, key) pair is well formed: lengths right, flag permitted, message builds -/
def WellFormed (sigs keys : List Bytes) : Prop :=
  ∀ s ∈ sigs, ∀ k ∈ keys, ∃ b, checkSig H C mis cache allowed s k = .ok b

variable {H C mis cache allowed}

theorem WellFormed.mono {sigs sigs' keys keys' : List Bytes} (h : WellFormed H C mis cache allowed sigs keys)
    (hs : sigs' ⊆ sigs) (hk : keys' ⊆ keys) : WellFormed H C mis cache allowed sigs' keys' :=
  fun s hs' k hk' => h s (hs hs') k (hk hk')

theorem findKey_eq {s : Bytes} {keys : List Bytes} (h : ∀ k ∈ keys, ∃ b, checkSig H C mis cache allowed s k = .ok b) :
    findKey H C mis cache allowed s keys = .ok (keys.find? (valid H C mis cache allowed s)) := by
  induction keys with
  | nil => rfl
  | cons k r ih =>
    obtain ⟨b, hb⟩ := h k (.head _)
    rw [findKey, List.find?_cons, valid, hb]
    cases b with
    | true => rfl
    | false => exact ih fun k hk => h k (.tail _ hk)

theorem loop_eq {sigs keys : List Bytes} (confirmed : List Bytes) (h : WellFormed H C mis cache allowed sigs keys) :
    multisigLoop H C mis cache allowed sigs keys confirmed =
      .ok (sigs.foldl (step (valid H C mis cache allowed)) (confirmed, keys)).1 := by
  induction sigs generalizing keys confirmed with
  | nil => rfl
  | cons s t ih =>
    have ht {ks} (hk : ks ⊆ keys) := h.mono (List.subset_cons_self s t) hk
    rw [multisigLoop, findKey_eq (h s (.head _)), List.foldl_cons, step]
    simp only [bind, Except.bind]
    cases keys.find? (valid H C mis cache allowed s) with
    | none => exact ih _ (ht fun _ => id)
    | some vk => exact ih _ (ht (@List.erase_subset _ instBEqOfDecidableEq _ _))

variable (H C mis cache allowed)

/-- C03.0 on well-formed inputs the instruction's verdict is the greedy matching verdict. -/
theorem multisig_eq_greedy (sigs keys : List Bytes) (hwf : WellFormed H C mis cache allowed sigs keys) :
    multisig H C mis cache allowed sigs keys = .ok (greedy (valid H C mis cache allowed) sigs keys) := by
  rw [multisig, loop_eq [] hwf]
  rfl

/-- C03.1 soundness, unconditional: a true verdict means the signatures are pairwise distinct
    byte strings and can be matched, in order, each to a *different* listed key under which it is
    valid (`ms` is a sub-multiset of the key list). Hence fewer than m distinct signers never
    pass: a repeated signature, or two signatures valid only under the same single key, cannot
    be matched injectively. -/
theorem multisig_sound (sigs keys : List Bytes) (hwf : WellFormed H C mis cache allowed sigs keys)
    (h : multisig H C mis cache allowed sigs keys = .ok true) :
    sigs.Nodup ∧ ∃ ms, List.Forall₂ (fun s k => valid H C mis cache allowed s k = true) sigs ms ∧
      ms.Subperm keys := by
  rw [multisig_eq_greedy H C mis cache allowed sigs keys hwf] at h
  exact greedy_sound _ sigs keys (Except.ok.inj h)

/-- C03.2 completeness under *unique signer* (a signature is valid under at most one key value —
    an idealisation of Ed25519 stated as a hypothesis): every injective valid assignment of
    pairwise distinct signatures is found, so the verdict is exactly "such a matching exists". -/
theorem multisig_complete (sigs keys ms : List Bytes) (hwf : WellFormed H C mis cache allowed sigs keys)
    (huniq : ∀ s k k', valid H C mis cache allowed s k = true → valid H C mis cache allowed s k' = true → k = k')
    (hnd : sigs.Nodup)
    (hf : List.Forall₂ (fun s k => valid H C mis cache allowed s k = true) sigs ms)
    (hsub : ms.Subperm keys) :
    multisig H C mis cache allowed sigs keys = .ok true := by
  rw [multisig_eq_greedy H C mis cache allowed sigs keys hwf, greedy_complete _ huniq sigs keys ms hnd hf hsub]

/-- C03.3 an error (malformed item, non-permitted flag) is never `true`. -/
theorem multisig_error_not_true (sigs keys : List Bytes) (e : ErrKind)
    (h : multisig H C mis cache allowed sigs keys = .error e) :
    multisig H C mis cache allowed sigs keys ≠ .ok true := by
  rw [h]; exact nofun

/-- C03.4 order independence under unique signer: permuting the keys and / or the signatures
    does not change a true verdict. -/
theorem multisig_perm (sigs keys sigs' keys' : List Bytes)
    (hwf : WellFormed H C mis cache allowed sigs keys) (hwf' : WellFormed H C mis cache allowed sigs' keys')
    (huniq : ∀ s k k', valid H C mis cache allowed s k = true → valid H C mis cache allowed s k' = true → k = k')
    (hs : sigs.Perm sigs') (hk : keys.Perm keys')
    (h : multisig H C mis cache allowed sigs keys = .ok true) :
    multisig H C mis cache allowed sigs' keys' = .ok true := by
  obtain ⟨hnd, ms, hf, hsub⟩ := multisig_sound H C mis cache allowed sigs keys hwf h
  -- the matching, carried along the permutation of the signatures
  obtain ⟨ms', hf', hp⟩ := List.perm_comp_forall₂ hs.symm hf
  exact multisig_complete H C mis cache allowed sigs' keys' ms' hwf' huniq (hs.nodup_iff.mp hnd) hf'
    ((hp.subperm.trans hsub).trans hk.subperm)

section instruction
open Instr

/-- **`OP_CHECK_MULTISIG allowed m n` computes `SigPure.multisig`** (no signature-extension plugin):
    with the `n` keys on top of the `m` signatures, the instruction ends with exactly the
    specification's Boolean on the remaining stack, or with exactly its error. The C03 theorems
    about `SigPure.multisig` (greedy matching, soundness, completeness, order independence) are
    therefore statements about the instruction. -/
theorem checkMultisig_instruction (cfg : Cfg) (hno : cfg.sigExts = []) (T : UInt8 → Op) (k : Op) (fr : Frame) (sh : Shared)
    (allowed m n : Nat) (rest : Bytes) (keys sigs st : List Bytes) (r : Res)
    (ha : allowed < 256) (hm : m < 256) (hn : n < 256)
    (hrest : fr.rest = UInt8.ofNat allowed :: UInt8.ofNat m :: UInt8.ofNat n :: rest)
    (hkl : keys.length = n) (hsl : sigs.length = m) (hs : sh.stack = keys ++ (sigs ++ st))
    (hsz : ∀ x ∈ keys ++ sigs, x.length ≤ cfg.lim.maxItemSize) (h1 : 1 ≤ cfg.lim.maxItemSize)
    (hroom : st.length + 2 ≤ cfg.lim.maxItems)
    (h : match SigPure.multisig H C cfg.lim.maxItemSize sh.cache allowed sigs keys with
         | .ok b => Steps T cfg.lim k { fr with rest := rest } { sh with stack := boolBytes b :: st } r
         | .error e => r = .err (.user e) { sh with stack := st }) :
    Steps T cfg.lim (opCheckMultisig H C cfg k) fr sh r := by
  rw [List.forall_mem_append] at hsz
  rw [opCheckMultisig, sigExt_nil hno]
  refine .readU1 ha hrest (.readU1 hm rfl (.readU1 hn rfl (.popN keys hkl hs (.popN sigs hsl rfl ?_))))
  refine msLoop_steps H C allowed _ sigs keys [] _ _ r hsz.2 hsz.1 h1 hroom ?_
  rw [SigPure.multisig] at h
  cases hl : SigPure.multisigLoop H C cfg.lim.maxItemSize sh.cache allowed sigs keys [] with
  | error e => rw [hl] at h; exact h
  | ok c =>
    rw [hl] at h
    exact Steps.pushBool h1 (Nat.lt_of_succ_lt hroom) h

end instruction

end TV.C03
