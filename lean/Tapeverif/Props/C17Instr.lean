import Tapeverif.Props.C17
import Tapeverif.Lemmas.BigStep
/-!
# C17 — the adapter-signature instructions, exactly

`Props/C17.lean` proves the adapter-signature facts in any commutative group and bridges the model's
scalar functions to that arithmetic. Here the two instructions a verifier executes are related to
those functions: what `OP_DECRYPT_ADAPTER_SIG` and `OP_CHECK_ADAPTER_SIG` leave on the stack is
exactly the value of the scalar / point functions on the popped items — so the algebra applies to
the instructions' outputs.
-/
namespace TV.C17
open Instr

variable (H : Hashes) (C : Curve)

/-- the cache after `OP_DECRYPT_ADAPTER_SIG`: the cache-copy flags 7 and 9 decide whether `RT` and
    `s` are *also* written there -/
def decCache (cfg : Cfg) (cache : List (CKey × CVal)) (RT s : Bytes) : List (CKey × CVal) :=
  (if cfg.flag 9 then [(CKey.byt (asciiBytes "s"), CVal.atom (Atom.bytes s))] else []) ++
  ((if cfg.flag 7 then [(CKey.byt (asciiBytes "RT"), CVal.atom (Atom.bytes RT))] else []) ++ cache)

/-- a cache copy that the flag `c` switches on: one more entry, under a key other than `E`, or none -/
theorem steps_cachePutIf {T : UInt8 → Op} {L : Limits} {c : Bool} {key : String} {v : Bytes} {k : Op} {fr : Frame} {sh : Shared}
    {r : Res} (hkey : asciiBytes key ≠ eKey)
    (h : Steps T L k fr { sh with cache := (if c then [(CKey.byt (asciiBytes key), CVal.atom (Atom.bytes v))] else []) ++ sh.cache } r) :
    Steps T L (cachePutIf c key v k) fr sh r := by
  cases c
  · exact h
  · exact Steps.cachePut (by rwa [if_neg hkey])

/-- **`OP_DECRYPT_ADAPTER_SIG`, exactly.** With the tweak scalar on top of `R` and `sa`: the
    instruction continues with `s = sa + t` on top of `RT = R + t·G` (as the model's scalar / point
    functions compute them) whatever the cache-copy flags are; the flags only add cache entries. -/
theorem decryptAdapterSig_instruction (cfg : Cfg) (T : UInt8 → Op) (k : Op) (fr : Frame) (sh : Shared)
    (t0 Rp sa t Tp RT s : Bytes) (st : List Bytes) (r : Res)
    (hs : sh.stack = t0 :: Rp :: sa :: st)
    (ht : Sodium.clampScalar t0 false = .ok t) (hT : Sodium.derivePoint C t = .ok Tp)
    (hRT : Sodium.aggregatePoints C [Rp, Tp] = .ok RT) (hsum : Sodium.scalarAdd sa t = .ok s)
    (hRTl : RT.length ≤ cfg.lim.maxItemSize) (hsl : s.length ≤ cfg.lim.maxItemSize) (hroom : st.length + 1 < cfg.lim.maxItems)
    (hk : Steps T cfg.lim k fr { sh with stack := s :: RT :: st, cache := decCache cfg sh.cache RT s } r) :
    Steps T cfg.lim (opDecryptAdapterSig C cfg k) fr sh r := by
  unfold opDecryptAdapterSig
  refine Steps.pop t0 (Rp :: sa :: st) hs ?_
  rw [ht]
  simp only [liftR]
  refine .pop Rp _ rfl (.pop sa st rfl ?_)
  simp only [bind, Except.bind, hT, hRT, hsum, pure, Except.pure]
  exact steps_cachePutIf (by decide) <| steps_cachePutIf (by decide) <|
    Steps.push hRTl (by show st.length < _; omega) <| Steps.push hsl (by show st.length + 1 < _; omega) hk

/-- the adapter check as a pure function of the five popped items -/
def adapterCheck (X Tp m Rp sa : Bytes) : R Bool := do
  let saG ← Sodium.baseNoclamp C sa
  let RT ← Sodium.aggregatePoints C [Rp, Tp]
  let ca ← Sodium.clampScalar (← Sodium.hSmall H (RT ++ X ++ m)) false
  let caX ← Sodium.multNoclamp C ca X
  let RcaX ← Sodium.aggregatePoints C [Rp, caX]
  pure (decide (Sodium.leNat sa < groupL) && saG == RcaX)

/-- **`OP_CHECK_ADAPTER_SIG`, exactly**: it pushes the Boolean `sa < L ∧ sa·G == R + ca·X` with
    `ca = H(R+T ‖ X ‖ m)` — or ends in the error the scalar / point functions raise. -/
theorem checkAdapterSig_instruction (cfg : Cfg) (T : UInt8 → Op) (k : Op) (fr : Frame) (sh : Shared)
    (X Tp m Rp sa : Bytes) (st : List Bytes) (r : Res)
    (hs : sh.stack = X :: Tp :: m :: Rp :: sa :: st) (hroom : st.length < cfg.lim.maxItems) (h1 : 1 ≤ cfg.lim.maxItemSize)
    (hk : match adapterCheck H C X Tp m Rp sa with
          | .ok b => Steps T cfg.lim k fr { sh with stack := boolBytes b :: st } r
          | .error e => r = .err (.user e) { sh with stack := st }) :
    Steps T cfg.lim (opCheckAdapterSig H C k) fr sh r := by
  unfold opCheckAdapterSig
  refine .pop X _ hs (.pop Tp _ rfl (.pop m _ rfl (.pop Rp _ rfl (.pop sa st rfl ?_))))
  change Steps T cfg.lim (liftR (adapterCheck H C X Tp m Rp sa) fun ok => pushBool ok k) fr _ r
  cases hc : adapterCheck H C X Tp m Rp sa with
  | error e =>
    rw [hc] at hk
    subst hk
    exact Steps.fail e _ _
  | ok b =>
    rw [hc] at hk
    exact Steps.pushBool h1 hroom hk

/-- a computation ends in `b` only if what follows its first step can -/
theorem bind_ne_ok {α β : Type} {x : R α} {f : α → R β} {b : β} (h : ∀ a, f a ≠ .ok b) : x >>= f ≠ .ok b := by
  cases x with
  | error e => nofun
  | ok a => exact h a

/-- a non-canonical adapter scalar is never accepted (the repaired check, fix F17) -/
theorem adapterCheck_noncanonical (X Tp m Rp sa : Bytes) (h : groupL ≤ Sodium.leNat sa) :
    adapterCheck H C X Tp m Rp sa ≠ .ok true := by
  unfold adapterCheck
  rw [decide_eq_false (Nat.not_lt.mpr h)]
  exact bind_ne_ok fun _ => bind_ne_ok fun _ => bind_ne_ok fun _ => bind_ne_ok fun _ => bind_ne_ok fun _ => bind_ne_ok fun _ => nofun

/-- the values `OP_DECRYPT_ADAPTER_SIG` pushes, in the vocabulary of the group-level theorems:
    for a 32-byte tweak scalar (bit 255 clear) and a 32-byte adapter scalar whose sum does not carry
    out of 256 bits, `T = enc((t mod 2^255)·B)` and `s = (sa + t) mod L`. -/
theorem decrypt_values (t sa : Bytes) (ht : t.length = 32) (hsa : sa.length = 32)
    (hz : C.isZero (C.smul (Sodium.leNat t % 2 ^ 255) C.B) = false)
    (hsum : Sodium.leNat sa + Sodium.leNat t < 2 ^ 256) :
    Sodium.derivePoint C t = .ok (C.enc (C.smul (Sodium.leNat t % 2 ^ 255) C.B)) ∧
    Sodium.scalarAdd sa t = .ok (Sodium.leBytes32 ((Sodium.leNat sa + Sodium.leNat t) % groupL)) :=
  ⟨derivePoint_is_smul C t ht hz, scalarAdd_is_add_mod sa t hsa ht hsum⟩

end TV.C17
