import Tapeverif.Lemmas.VMRun
/-! # C08 — scripts can read but never alter interpreter-owned (string-keyed) cache values

For an arbitrary op table: the vocabulary has no primitive that writes a string key. -/
namespace TV.C08

variable (T : UInt8 → Op) (L : Limits)

/-- C08.1 after any script run — successful or failed, state taken at the point of failure —
    every string-keyed entry is what it was: none added, changed or removed. -/
theorem str_entries_unchanged_script (fuel : Nat) (script : Bytes) (cache : List (CKey × CVal)) (s : Bytes) :
    lookupC (.str s) (runScript T L fuel script cache).shared.cache
      = lookupC (.str s) (initShared cache).cache :=
  (post_shared L (runTape_post T L fuel _ _ (initShared_inv L cache) rfl)).2.1 s

theorem str_entries_unchanged_auth (fuel : Nat) (scripts : List Bytes) (cache : List (CKey × CVal)) (s : Bytes) :
    lookupC (.str s) (runAuthRes T L fuel scripts cache).shared.cache
      = lookupC (.str s) (initShared cache).cache :=
  (post_shared L (runAuthRest_post T L fuel scripts 0 _ (initShared_inv L cache))).2.1 s

/-- … and for every nested run from any reachable state. -/
theorem str_entries_unchanged_tape (fuel : Nat) (fr : Frame) (sh : Shared)
    (hi : StackInv L sh) (hr : sh.returned = false) (s : Bytes) :
    lookupC (.str s) (runTape T L fuel fr sh).shared.cache = lookupC (.str s) sh.cache :=
  (post_shared L (runTape_post T L fuel fr sh hi hr)).2.1 s

/-- dropping the entries of one key does not change what any other key finds -/
theorem lookupC_filter_ne {k k0 : CKey} (h : k ≠ k0) (l : List (CKey × CVal)) :
    lookupC k (l.filter fun kv => kv.1 ≠ k0) = lookupC k l := by
  induction l with
  | nil => rfl
  | cons kv r ih =>
    by_cases hk : kv.1 = k0
    · rw [List.filter_cons_of_neg (by simpa using hk), ih, lookupC, if_neg (hk ▸ h)]
    · rw [List.filter_cons_of_pos (by simpa using hk), lookupC, lookupC, ih]

/-- the embedder's entries other than the interpreter's own `'returned'` flag survive
    `initShared` untouched -/
theorem initShared_keeps (cache : List (CKey × CVal)) (s : Bytes)
    (hs : s ≠ asciiBytes "returned") :
    lookupC (.str s) (initShared cache).cache = lookupC (.str s) cache :=
  lookupC_filter_ne (fun h => hs (CKey.str.inj h)) cache

/-- C08.2 consequently the message a signature is checked against and the timestamp used by
    time locks — both read only from string keys — are the same before and after. -/
theorem sigfields_and_timestamp_unchanged (fuel : Nat) (scripts : List Bytes)
    (cache : List (CKey × CVal)) :
    (∀ i : Nat, lookupC (.str (asciiBytes ("sigfield" ++ toString i))) (runAuthRes T L fuel scripts cache).shared.cache
        = lookupC (.str (asciiBytes ("sigfield" ++ toString i))) (initShared cache).cache) ∧
    lookupC (.str (asciiBytes "timestamp")) (runAuthRes T L fuel scripts cache).shared.cache
        = lookupC (.str (asciiBytes "timestamp")) (initShared cache).cache :=
  ⟨fun _ => str_entries_unchanged_auth T L fuel scripts cache _,
   str_entries_unchanged_auth T L fuel scripts cache _⟩

/-- Non-vacuity: a cache-writing primitive with a key *spelling* a protected name leaves the
    string-keyed entry alone. -/
example : lookupC (.str (asciiBytes "timestamp"))
    ((.byt (asciiBytes "timestamp"), .atom (.int 0)) :: [(.str (asciiBytes "timestamp"), .atom (.int 7))])
    = some (.atom (.int 7)) := by decide

end TV.C08
