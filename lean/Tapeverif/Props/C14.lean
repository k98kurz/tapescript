import Tapeverif.Lemmas.RunRel
/-! # C14 — delegation: certificates, the single-certificate lock, one level of the chain lock

Certificate serialisation round-trips for every field value. The single-certificate lock, executed
symbolically, ends with exactly `delegateSpec`, and `delegateKeyLock_accepts_iff` says when that is
the verdict `[ff]`. `chainLevel_final` and `chainLevel_delegates` say what one activation of the chain
lock's recursive function does; `Props/C14Locks.lean` composes them for chains of every length. -/
namespace TV.C14

open Instr Tools

variable (H : Hashes) (C : Curve)

theorem pad4_length (n : Nat) : (pad4 n).length = 4 := natToBytesBE_length 4 n

theorem natOf_pad4 {n : Nat} (h : n < 2 ^ 32) : natOfBytesBE (pad4 n) = n := natOf_natTo_of_lt h

/-- C14 (serialisation): for every certificate with a 32-byte delegate key, timestamps below
    2^32 (the builder admits `< 2^31`), any may-delegate flag and a 64-byte signature, unpacking
    the packed form returns exactly the certificate; the packed form is 105 bytes. -/
theorem cert_pack_unpack (c : Certificate) (hd : c.delegate.length = 32)
    (hb : c.beginTs < 2 ^ 32) (he : c.endTs < 2 ^ 32) (hs : c.signature.length = 64) :
    (Certificate.pack c).length = 105 ∧ Certificate.unpack (Certificate.pack c) = some c := by
  have hl : (Certificate.pack c).length = 105 := by
    simp [Certificate.pack, Certificate.preimage, hd, pad4_length, hs]
  refine ⟨hl, ?_⟩
  rw [Certificate.unpack, if_pos hl]
  obtain ⟨d, b, e, m, s⟩ := c
  simp only [Certificate.pack, Certificate.preimage] at hd hb he ⊢
  -- every `take` / `drop` falls on a field boundary
  simp [List.drop_append, List.drop_eq_nil_of_le, hd, pad4_length, natOf_pad4 hb, natOf_pad4 he]

/-- the packed may-delegate byte is 0xff exactly for delegable certificates -/
theorem cert_may_byte (c : Certificate) (hd : c.delegate.length = 32) :
    (Certificate.preimage c)[40]? = some (if c.may then 0xff else 0x00) := by
  unfold Certificate.preimage
  rw [List.getElem?_append_right (by simp [hd, pad4_length])]
  simp [hd, pad4_length]

/-- Non-vacuity -/
example : (Certificate.unpack (Certificate.pack ⟨List.replicate 32 7, 5, 2^31 - 1, true, List.replicate 64 9⟩)).map (·.endTs) = some (2^31 - 1) := by
  decide

section prelude
variable {H : Hashes} {C : Curve} {cfg : Cfg} {fr : Frame} {sh : Shared} {k : Nat} {rest : Bytes} {st : List Bytes}
  {wr : Written} {P : Res → Prop}

/-- `certChecks`, instruction by instruction, in front of `rest` -/
theorem certChecks_append (keepCan : Bool) (rest : Bytes) : certChecks keepCan ++ rest =
    Tools.pushInt 41 ++ (SPLIT ++ (writeCache "s" 1 ++ (DUP ++ (Tools.pushInt 40 ++ (SPLIT ++
    ((if keepCan then writeCache "c" 1 else POP0) ++ (Tools.pushInt 36 ++ (SPLIT ++ (writeCache "e" 1 ++ (Tools.pushInt 32 ++ (SPLIT ++
    (writeCache "b" 1 ++ (writeCache "d" 1 ++ (readCache "b" ++ (opc CTSV ++ (readCache "e" ++ (opc CTS ++ (opc NOT ++ (opc VERIFY ++
    (readCache "s" ++ (SWAP2 ++ rest))))))))))))))))))))) := by
  unfold certChecks
  simp only [List.append_assoc]

/-- what `certChecks` writes: the certificate's parts (the may-delegate byte under `c`, or where `pop0` leaves it) -/
def certWritten (keepCan : Bool) (dk b4 e4 csig : Bytes) (m : UInt8) (wr : Written) : Written :=
  (asciiBytes "d", .list [.bytes dk]) :: (asciiBytes "b", .list [.bytes b4]) :: (asciiBytes "e", .list [.bytes e4]) ::
  ((if keepCan then asciiBytes "c" else pKey), .list [.bytes [m]]) :: (asciiBytes "s", .list [.bytes csig]) :: wr

/-- the one place where the two preludes differ: the chain lock keeps the may-delegate byte under `c`, the
    single-certificate lock drops it (`pop0` leaves it under `P`) -/
theorem Run.mayByte (keepCan : Bool) {x : Bytes}
    (h : Run H C cfg fr sh (k + 1) rest st (((if keepCan then asciiBytes "c" else pKey), .list [.bytes x]) :: wr) P) :
    Run H C cfg fr sh k ((if keepCan then writeCache "c" 1 else POP0) ++ rest) (x :: st) wr P := by
  cases keepCan
  · exact Run.pop0 h
  · exact Run.writeCache varName_c h

/-- **the certificate prelude**, on a packed certificate `delegate ‖ begin ‖ end ‖ may ‖ signature`: outside the window
    (`t` accepted against begin, not against end) the run ends in the VERIFY error; inside, it goes on with the
    preimage above the certificate's signature and the parts written -/
theorem Run.certChecks (keepCan : Bool) {dk b4 e4 csig : Bytes} {m : UInt8} {t thr : Int}
    (hdk : dk.length = 32) (hb4 : b4.length = 4) (he4 : e4.length = 4) (hcs : csig.length = 64)
    (hclk : Clock cfg sh.cache t thr) (hsz : 105 ≤ cfg.lim.maxItemSize)
    (hin : C16.tsAccept t cfg.now thr b4 = true → C16.tsAccept t cfg.now thr e4 = false →
      Run H C cfg fr sh (k + 1) rest ((dk ++ b4 ++ e4 ++ [m]) :: csig :: st) (certWritten keepCan dk b4 e4 csig m wr) P)
    (hout : ¬ (C16.tsAccept t cfg.now thr b4 = true ∧ C16.tsAccept t cfg.now thr e4 = false) → ∀ s, P (.err (.user .see) s)) :
    Run H C cfg fr sh (k + 2) (certChecks keepCan ++ rest) ((dk ++ b4 ++ e4 ++ [m] ++ csig) :: st) wr P := by
  rw [certChecks_append]
  have l36 : (dk ++ b4).length = 36 := by simp [hdk, hb4]
  have l40 : (dk ++ b4 ++ e4).length = 40 := by simp [hdk, hb4, he4]
  have l41 : (dk ++ b4 ++ e4 ++ [m]).length = 41 := by simp [hdk, hb4, he4]
  have hb4ne : b4 ≠ [] := List.ne_nil_of_length_pos (by omega)
  have he4ne : e4 ≠ [] := List.ne_nil_of_length_pos (by omega)
  -- s := signature, c (or P) := may byte, e, b, d := delegate key; the preimage stays
  refine Run.splitAt 41 (by decide) l41 (by omega) (by omega) <| Run.writeCache varName_s <| Run.dup (by omega) <|
    Run.splitAt 40 (by decide) l40 (by simp) (by simp; omega) <| Run.mayByte keepCan <|
    Run.splitAt 36 (by decide) l36 (by omega) (by omega) <| Run.writeCache varName_e <|
    Run.splitAt 32 (by decide) hdk (by omega) (by omega) <| Run.writeCache varName_b <| Run.writeCache varName_d <|
  -- begin ≤ t, not ahead of the clock; then not (end ≤ t …)
    Run.readCache varName_b rfl (by omega) <| Run.ctsv hclk hb4ne (by omega) (fun hab => ?_) (fun hab => hout (by simp [hab]) _)
  refine Run.readCache varName_e rfl (by omega) <| Run.cts hclk he4ne (by omega) <| Run.not (by rw [boolBytes_length]; omega) <|
    Run.verify (notBytes_bool _) (fun hae => ?_)
      (fun hae => hout (by simp [show C16.tsAccept t cfg.now thr e4 = true by simpa using hae]) _)
  -- the lookup of `s` passes the may-delegate entry, whose key depends on `keepCan`
  exact Run.readCache varName_s (by cases keepCan <;> rfl) (by omega) <| Run.swap2 (by omega) (by omega) <| hin hab (by simpa using hae)

end prelude

/-- the C14 acceptance condition of the single-certificate lock, as a function of its inputs -/
def delegateSpec (cfg : Cfg) (cache : List (CKey × CVal)) (root dk b4 e4 csig sig : Bytes) (m : UInt8) (flags : Nat)
    (t thr : Int) (st : List Bytes) : Except Err (List Bytes) :=
  if C16.tsAccept t cfg.now thr b4 = false then .error (.user .see)
  else if C16.tsAccept t cfg.now thr e4 = true then .error (.user .see)
  else if Sodium.verify H C root (dk ++ b4 ++ e4 ++ [m]) csig = false then .error (.user .see)
  else match SigPure.checkSig H C cfg.lim.maxItemSize cache flags sig dk with
    | .ok b => .ok (boolBytes b :: st)
    | .error e => .error (.user e)

/-- **C14, single-certificate lock, exact acceptance condition.** For every root key, certificate
    fields, certificate signature, final signature, cache, timestamp, clock, threshold and limits
    (no signature-extension plugin): running `make_delegate_key_lock(root, flags)` on a stack
    `cert :: sig :: st` ends with exactly `delegateSpec`: an error unless `t` is accepted against
    `begin` (t ≥ begin, not ahead of the clock by the slack or more), *not* accepted against `end`,
    and the certificate signature verifies under the root over (delegate ‖ begin ‖ end ‖ may);
    then exactly the C02 verdict of the final signature under the **delegate** key. -/
theorem delegateKeyLock_run (cfg : Cfg) (hno : cfg.sigExts = []) (root dk b4 e4 csig sig : Bytes) (m : UInt8)
    (flags : Nat) (st : List Bytes) (sh : Shared) (count : Nat) (t thr : Int)
    (hroot : root.length = 32) (hdk : dk.length = 32) (hb4 : b4.length = 4) (he4 : e4.length = 4) (hcs : csig.length = 64)
    (hfl : flags < 256)
    (hs : sh.stack = (dk ++ b4 ++ e4 ++ [m] ++ csig) :: sig :: st) (hr : sh.returned = false)
    (ht : lookupC C16.tsKey sh.cache = some (.atom (.int t))) (hthr : cfg.tsThreshold = some thr)
    (hsz : 105 ≤ cfg.lim.maxItemSize) (hroom : st.length + 6 ≤ cfg.lim.maxItems) :
    Ends (instrTable H C cfg) cfg.lim (topFrame (delegateKeyLock root flags) count) sh
      (fun r => Res.summary r = delegateSpec H C cfg sh.cache root dk b4 e4 csig sig m flags t thr st) := by
  refine Run.top 4 (by simp only [delegateKeyLock, List.append_assoc]; rfl) hs hr (by slots) ?_
  unfold delegateSpec
  refine Run.certChecks false hdk hb4 he4 hcs ⟨ht, hthr⟩ hsz (fun hab hae => ?_) (fun hout s => ?_)
  · -- the certificate's signature under the root key, then the final signature under the delegate key
    rw [if_neg (ne_false_of_eq_true hab), if_neg (ne_true_of_eq_false hae)]
    refine Run.pushKey hroot (by omega) <| Run.css hroot hcs (by omega) <|
      Run.verify (truthy_boolBytes _) (fun hv => ?_) (fun hv => ?_)
    · rw [if_neg (ne_false_of_eq_true hv)]
      exact Run.readCache varName_d rfl (by omega) <| Run.checkSig_last hno hfl (by omega) fun r hsum => hsum
    · rw [Res.summary_err, if_pos hv]
  · rw [Res.summary_err]
    by_cases hab : C16.tsAccept t cfg.now thr b4 = false
    · rw [if_pos hab]
    · rw [if_neg hab, if_pos (by simpa [hab] using hout)]

/-- the two window instructions together accept exactly `begin ≤ t < end` with `t` not ahead of
    the verifier clock by the slack threshold or more -/
theorem window_iff (t now thr : Int) (b4 e4 : Bytes) :
    (C16.tsAccept t now thr b4 = true ∧ C16.tsAccept t now thr e4 = false) ↔
      ((natOfBytesBE b4 : Int) ≤ t ∧ t < (natOfBytesBE e4 : Int) ∧ (thr ≤ 0 ∨ t - now < thr)) := by
  unfold C16.tsAccept
  simp only [decide_eq_true_eq, decide_eq_false_iff_not]
  constructor
  · intro ⟨⟨h1, h2⟩, h3⟩
    refine ⟨h1, ?_, h2⟩
    by_cases h : t < (natOfBytesBE e4 : Int)
    · exact h
    · exact absurd ⟨by omega, h2⟩ h3
  · intro ⟨h1, h2, h3⟩
    exact ⟨⟨h1, h3⟩, fun ⟨h4, _⟩ => by omega⟩

/-- **C14, single-certificate lock: accepted exactly when the property's sentence holds.** With the
    witness having left exactly `[cert, sig]`, the lock ends without error on the stack `[ff]` iff
    `begin ≤ t < end`, `t` is not ahead of the clock by the slack or more, the certificate is signed
    by the root key over (delegate ‖ begin ‖ end ‖ may), and the final signature passes the C02
    specification under the delegate key. -/
theorem delegateKeyLock_accepts_iff (cfg : Cfg) (hno : cfg.sigExts = []) (root dk b4 e4 csig sig : Bytes) (m : UInt8)
    (flags : Nat) (sh : Shared) (count : Nat) (t thr : Int)
    (hroot : root.length = 32) (hdk : dk.length = 32) (hb4 : b4.length = 4) (he4 : e4.length = 4) (hcs : csig.length = 64)
    (hfl : flags < 256)
    (hs : sh.stack = [dk ++ b4 ++ e4 ++ [m] ++ csig, sig]) (hr : sh.returned = false)
    (ht : lookupC C16.tsKey sh.cache = some (.atom (.int t))) (hthr : cfg.tsThreshold = some thr)
    (hsz : 105 ≤ cfg.lim.maxItemSize) (hroom : 6 ≤ cfg.lim.maxItems) :
    (∃ r, TSteps (instrTable H C cfg) cfg.lim (topFrame (delegateKeyLock root flags) count) sh r ∧
        Res.summary r = .ok [[0xff]]) ↔
      ((natOfBytesBE b4 : Int) ≤ t ∧ t < (natOfBytesBE e4 : Int) ∧ (thr ≤ 0 ∨ t - cfg.now < thr) ∧
        Sodium.verify H C root (dk ++ b4 ++ e4 ++ [m]) csig = true ∧
        SigPure.checkSig H C cfg.lim.maxItemSize sh.cache flags sig dk = .ok true) := by
  rw [(delegateKeyLock_run H C cfg hno root dk b4 e4 csig sig m flags [] sh count t thr
    hroot hdk hb4 he4 hcs hfl hs hr ht hthr hsz (by simpa using hroom)).summary_iff, delegateSpec]
  simp only [error_ite_eq_ok, Bool.not_eq_false, Bool.not_eq_true]
  rw [← and_assoc, window_iff, and_assoc, and_assoc]
  exact and_congr_right fun _ => and_congr_right fun _ => and_congr_right fun _ => and_congr_right fun _ => sigOutcome_accepts _

/-- … stated for a `Certificate`: the lock accepts `[pack c, sig]` exactly when
    `c.begin ≤ t < c.end`, `t` is within the clock slack, `c` is signed by the root key over its
    preimage, and `sig` passes the C02 specification under `c.delegate`. -/
theorem delegateKeyLock_accepts_cert (cfg : Cfg) (hno : cfg.sigExts = []) (root sig : Bytes) (c : Certificate)
    (flags : Nat) (sh : Shared) (count : Nat) (t thr : Int)
    (hroot : root.length = 32) (hd : c.delegate.length = 32) (hb : c.beginTs < 2 ^ 32) (he : c.endTs < 2 ^ 32)
    (hcs : c.signature.length = 64) (hfl : flags < 256)
    (hs : sh.stack = [Certificate.pack c, sig]) (hr : sh.returned = false)
    (ht : lookupC C16.tsKey sh.cache = some (.atom (.int t))) (hthr : cfg.tsThreshold = some thr)
    (hsz : 105 ≤ cfg.lim.maxItemSize) (hroom : 6 ≤ cfg.lim.maxItems) :
    (∃ r, TSteps (instrTable H C cfg) cfg.lim (topFrame (delegateKeyLock root flags) count) sh r ∧
        Res.summary r = .ok [[0xff]]) ↔
      ((c.beginTs : Int) ≤ t ∧ t < (c.endTs : Int) ∧ (thr ≤ 0 ∨ t - cfg.now < thr) ∧
        Sodium.verify H C root (Certificate.preimage c) c.signature = true ∧
        SigPure.checkSig H C cfg.lim.maxItemSize sh.cache flags sig c.delegate = .ok true) := by
  have := delegateKeyLock_accepts_iff H C cfg hno root c.delegate (pad4 c.beginTs) (pad4 c.endTs) c.signature sig
    (if c.may then 0xff else 0x00) flags sh count t thr hroot hd (pad4_length _) (pad4_length _) hcs hfl
    (by rw [hs]; rfl) hr ht hthr hsz hroom
  rwa [natOf_pad4 hb, natOf_pad4 he] at this

/-- the decision at the end of one chain level: `if ( @c and ) { @d call d0 } else { @d check_sig <flags> }` -/
def chainDecide (flags : Nat) : Bytes :=
  readCache "c" ++ (opc 88 ++ ifElse (readCache "d" ++ CALL 0) (readCache "d" ++ CHECK_SIG flags))

/-- the body of `def 0` of `make_delegate_key_chain_lock`, instruction by instruction -/
def chainBodySeq (flags : Nat) : Bytes :=
  writeCache "r" 1 ++ (Tools.pushInt 41 ++ (SPLIT ++ (writeCache "s" 1 ++ (DUP ++ (Tools.pushInt 40 ++ (SPLIT ++ (writeCache "c" 1 ++
  (Tools.pushInt 36 ++ (SPLIT ++ (writeCache "e" 1 ++ (Tools.pushInt 32 ++ (SPLIT ++ (writeCache "b" 1 ++
  (writeCache "d" 1 ++ (readCache "b" ++ (opc CTSV ++ (readCache "e" ++ (opc CTS ++ (opc NOT ++ (opc VERIFY ++
  (readCache "s" ++ (SWAP2 ++ (readCache "r" ++ (CSS ++ (opc VERIFY ++ chainDecide flags)))))))))))))))))))))))))

theorem chainBodySeq_eq (flags : Nat) : chainBodySeq flags =
    writeCache "r" 1 ++ (certChecks true ++ (readCache "r" ++ (CSS ++ (opc VERIFY ++ chainDecide flags)))) := by
  rw [certChecks_append]; rfl

theorem chainLock_bytes (root : Bytes) (flags : Nat) :
    delegateKeyChainLock root flags = defOp 0 (chainBodySeq flags) ++ (pushB root ++ CALL 0) := by
  simp only [delegateKeyChainLock, chainBodySeq_eq, chainDecide, List.append_assoc]

/-- the checks one chain level makes on its certificate, under the authorizing key `auth` -/
def levelChecks (cfg : Cfg) (auth dk b4 e4 csig : Bytes) (m : UInt8) (t thr : Int) : Prop :=
  C16.tsAccept t cfg.now thr b4 = true ∧ C16.tsAccept t cfg.now thr e4 = false ∧
    Sodium.verify H C auth (dk ++ b4 ++ e4 ++ [m]) csig = true

instance (cfg : Cfg) (auth dk b4 e4 csig : Bytes) (m : UInt8) (t thr : Int) :
    Decidable (levelChecks H C cfg auth dk b4 e4 csig m t thr) := by unfold levelChecks; infer_instance

/-- the cache after a level has taken its certificate apart -/
def levelCache (cache : List (CKey × CVal)) (auth dk b4 e4 csig : Bytes) (m : UInt8) : List (CKey × CVal) :=
  (CKey.byt (asciiBytes "d"), CVal.list [Atom.bytes dk]) :: (CKey.byt (asciiBytes "b"), CVal.list [Atom.bytes b4]) ::
  (CKey.byt (asciiBytes "e"), CVal.list [Atom.bytes e4]) :: (CKey.byt (asciiBytes "c"), CVal.list [Atom.bytes [m]]) ::
  (CKey.byt (asciiBytes "s"), CVal.list [Atom.bytes csig]) :: (CKey.byt (asciiBytes "r"), CVal.list [Atom.bytes auth]) :: cache

/-- **C14, one level of the chain lock.** In *any* activation of the lock's function (any frame
    whose tape is the function body), from a stack `auth :: cert :: rest0`: the level ends in an
    error unless the certificate is inside its window (`t` accepted against begin, not against
    end) and is signed by the authorizing key `auth` over (delegate ‖ begin ‖ end ‖ may); if it
    is, the run continues at the decision `if ( @c and ) …` with the certificate removed from the
    stack and its parts in the cache — whatever `Q` that continuation guarantees. -/
theorem chainLevel_run (cfg : Cfg) (auth dk b4 e4 csig : Bytes) (m : UInt8) (flags : Nat)
    (rest0 : List Bytes) (sh : Shared) (fr : Frame) (t thr : Int) (Q : Res → Prop)
    (hfrest : fr.rest = chainBodySeq flags) (hcap : fr.len0 < fr.cap)
    (hauth : auth.length = 32) (hdk : dk.length = 32) (hb4 : b4.length = 4) (he4 : e4.length = 4) (hcs : csig.length = 64)
    (hs : sh.stack = auth :: (dk ++ b4 ++ e4 ++ [m] ++ csig) :: rest0) (hr : sh.returned = false)
    (ht : lookupC C16.tsKey sh.cache = some (.atom (.int t))) (hthr : cfg.tsThreshold = some thr)
    (hsz : 105 ≤ cfg.lim.maxItemSize) (hroom : rest0.length + 5 ≤ cfg.lim.maxItems)
    (hQ : levelChecks H C cfg auth dk b4 e4 csig m t thr →
      Ends (instrTable H C cfg) cfg.lim { fr with rest := chainDecide flags }
        { sh with stack := rest0, cache := levelCache sh.cache auth dk b4 e4 csig m } Q) :
    Ends (instrTable H C cfg) cfg.lim fr sh
      (fun r => (levelChecks H C cfg auth dk b4 e4 csig m t thr → Q r) ∧
                (¬ levelChecks H C cfg auth dk b4 e4 csig m t thr → ∃ s, r = .err (.user .see) s)) := by
  refine Run.ends 3 (hfrest.trans (chainBodySeq_eq flags)) hs hcap hr (by slots) ?_
  unfold levelChecks at hQ ⊢
  -- r := the authorizing key; the certificate; its signature under `r`
  refine Run.writeCache varName_r <| Run.certChecks true hdk hb4 he4 hcs ⟨ht, hthr⟩ hsz (fun hab hae => ?_)
    (fun hout s => ⟨fun hc => absurd ⟨hc.1, hc.2.1⟩ hout, fun _ => ⟨s, rfl⟩⟩)
  refine Run.readCache varName_r rfl (by omega) <| Run.css hauth hcs (by omega) <| Run.verify (truthy_boolBytes _) (fun hv => ?_)
    (fun hv => ⟨fun hc => ?_, fun _ => ⟨_, rfl⟩⟩)
  · obtain ⟨r, hrun, hq⟩ := hQ ⟨hab, hae, hv⟩
    exact Run.exact ⟨r, hrun, fun _ => hq, fun hn => absurd ⟨hab, hae, hv⟩ hn⟩
  · rw [hc.2.2] at hv; cases hv

/-- what a level has written when it reaches its decision: `levelCache` is this over the cache it started with -/
def levelWritten (auth dk b4 e4 csig : Bytes) (m : UInt8) : Written :=
  certWritten true dk b4 e4 csig m [(asciiBytes "r", .list [.bytes auth])]

section decision
variable {H : Hashes} {C : Curve} {cfg : Cfg} {fr : Frame} {sh : Shared} {k : Nat} {P : Res → Prop}

theorem callArm_length : (readCache "d" ++ CALL 0).length = 5 := by
  simp only [List.length_append, readCache_length, CALL_length]; decide

theorem sigArm_length (flags : Nat) : (readCache "d" ++ CHECK_SIG flags).length = 5 := by
  simp only [List.length_append, readCache_length, CHECK_SIG_length]; decide

theorem chainDecide_length (flags : Nat) : (chainDecide flags).length = 19 := by
  simp only [chainDecide, List.length_append, ifElse_length, readCache_length, CALL_length, CHECK_SIG_length, opc_length]; decide

theorem chainBodySeq_length (flags : Nat) : (chainBodySeq flags).length = 75 := by
  -- `rfl` proves it, but has the elaborator evaluate the key strings; as a closed sum the kernel evaluates it
  simp only [chainBodySeq, List.length_append, chainDecide_length]
  decide +kernel

theorem chainDecide_le_body (flags : Nat) : (chainDecide flags).length ≤ (chainBodySeq flags).length := by
  rw [chainDecide_length, chainBodySeq_length]; decide

/-- **the decision.** The may-delegate byte ANDed with the item after the certificate chooses the arm, which runs, inline,
    with this certificate's delegate key on the stack. True (a delegable certificate followed by the witness's `true`
    marker): `CALL 0` — the next level runs with the delegate key as its authorizing key. False (the witness's `false`
    marker, or a certificate that does not permit delegation): the check of the next item as a signature under the
    delegate key. The level ends as the arm does. -/
theorem Run.chainDecide {auth dk b4 e4 csig marker : Bytes} {m : UInt8} {flags : Nat} {st : List Bytes}
    (hlen : (chainDecide flags).length ≤ fr.len0) (hdk : dk.length = 32)
    (hmk : marker.length ≤ cfg.lim.maxItemSize) (hsz : 32 ≤ cfg.lim.maxItemSize)
    (hcall : truthy (andBytes [m] marker) = true →
      Run H C cfg (inlineFrame (readCache "d" ++ CALL 0) fr sh) (sh.copied fr.dict) (k + 1) (CALL 0) (dk :: st)
        (levelWritten auth dk b4 e4 csig m) (fun rB => P (wrapInline (fr.cont []) rB)))
    (hsig : truthy (andBytes [m] marker) = false →
      Run H C cfg (inlineFrame (readCache "d" ++ CHECK_SIG flags) fr sh) (sh.copied fr.dict) (k + 1) (CHECK_SIG flags) (dk :: st)
        (levelWritten auth dk b4 e4 csig m) (fun rB => P (wrapInline (fr.cont []) rB))) :
    Run H C cfg fr sh (k + 1) (chainDecide flags) (marker :: st) (levelWritten auth dk b4 e4 csig m) P := by
  rw [chainDecide_length] at hlen
  have hla := callArm_length
  have hlb := sigArm_length flags
  refine Run.readCache varName_c rfl (by simp; omega) <| Run.and (andBytes_length_le (by simp; omega) hmk) <|
    Run.ifElse_last (by omega) (by omega) (by split <;> omega) ?_
  cases hc : truthy (andBytes [m] marker)
  · exact Run.readCache varName_d rfl (by omega) (hsig hc)
  · exact Run.readCache varName_d rfl (by omega) (hcall hc)

end decision

theorem levelCache_ts (cache : List (CKey × CVal)) (auth dk b4 e4 csig : Bytes) (m : UInt8) :
    lookupC C16.tsKey (levelCache cache auth dk b4 e4 csig m) = lookupC C16.tsKey cache :=
  lookupC_str_written _ (levelWritten auth dk b4 e4 csig m) cache

theorem levelCache_checkSig (mis : Nat) (cache : List (CKey × CVal)) (auth dk b4 e4 csig : Bytes) (m : UInt8) (a : Nat) (s v : Bytes) :
    SigPure.checkSig H C mis (levelCache cache auth dk b4 e4 csig m) a s v = SigPure.checkSig H C mis cache a s v :=
  checkSig_written H C mis (levelWritten auth dk b4 e4 csig m) cache a s v

/-- **C14, the last link of a chain: exact outcome of its level.** In any activation, from a stack
    `auth :: cert :: marker :: sig :: st` where the marker ANDed with the may-delegate byte is
    false: an error unless the certificate is inside its window and signed by `auth`; then exactly
    the C02 verdict of `sig` under the certificate's delegate key. -/
theorem chainLevel_final (cfg : Cfg) (hno : cfg.sigExts = []) (auth dk b4 e4 csig marker sig : Bytes) (m : UInt8) (flags : Nat)
    (st : List Bytes) (sh : Shared) (fr : Frame) (t thr : Int)
    (hfrest : fr.rest = chainBodySeq flags) (hcap : fr.len0 < fr.cap) (hlen : (chainBodySeq flags).length ≤ fr.len0)
    (hauth : auth.length = 32) (hdk : dk.length = 32) (hb4 : b4.length = 4) (he4 : e4.length = 4) (hcs : csig.length = 64)
    (hfl : flags < 256) (hmk : marker.length ≤ cfg.lim.maxItemSize)
    (hs : sh.stack = auth :: (dk ++ b4 ++ e4 ++ [m] ++ csig) :: marker :: sig :: st) (hr : sh.returned = false)
    (ht : lookupC C16.tsKey sh.cache = some (.atom (.int t))) (hthr : cfg.tsThreshold = some thr)
    (hfalse : truthy (andBytes [m] marker) = false)
    (hsz : 105 ≤ cfg.lim.maxItemSize) (hroom : st.length + 7 ≤ cfg.lim.maxItems) :
    Ends (instrTable H C cfg) cfg.lim fr sh
      (fun r => Res.summary r =
        (if levelChecks H C cfg auth dk b4 e4 csig m t thr then
          (match SigPure.checkSig H C cfg.lim.maxItemSize sh.cache flags sig dk with
           | .ok b => .ok (boolBytes b :: st)
           | .error e => .error (.user e))
         else .error (.user .see))) := by
  have hdl : (chainDecide flags).length ≤ fr.len0 := Nat.le_trans (chainDecide_le_body flags) hlen
  obtain ⟨r, hrun, hpass, hfail⟩ := chainLevel_run H C cfg auth dk b4 e4 csig m flags (marker :: sig :: st) sh fr t thr
    (fun r => Res.summary r = sigOutcome (SigPure.checkSig H C cfg.lim.maxItemSize sh.cache flags sig dk) st)
    hfrest hcap hauth hdk hb4 he4 hcs hs hr ht hthr hsz (by simp; omega)
    (fun _ => Run.chainDecide (k := 0) hdl hdk hmk (by omega) (fun htrue => absurd (hfalse.symm.trans htrue) Bool.false_ne_true)
      (fun _ => Run.checkSig_last hno hfl (by omega) fun r h => (summary_wrapInline _ r).trans h) hcap hr (by slots))
  refine ⟨r, hrun, ?_⟩
  by_cases hc : levelChecks H C cfg auth dk b4 e4 csig m t thr
  · rw [if_pos hc]; exact hpass hc
  · rw [if_neg hc]
    obtain ⟨s, hs'⟩ := hfail hc
    rw [hs']; rfl

/-- **C14, a non-final link: exact outcome of its level.** From a stack
    `auth :: cert :: marker :: rest1` where the marker ANDed with the may-delegate byte is true:
    an error unless the certificate is inside its window and signed by `auth`; then the level is
    exactly `CALL 0` on the stack `delegate :: rest1` — the next level, authorized by this
    certificate's delegate key — and ends as that call does (`rB`). A certificate that does not
    permit delegation (may-delegate byte 00) never reaches this case: it falls to
    `chainLevel_final`, where the next certificate is not a valid signature. -/
theorem chainLevel_delegates (cfg : Cfg) (auth dk b4 e4 csig marker : Bytes) (m : UInt8) (flags : Nat)
    (rest1 : List Bytes) (sh : Shared) (fr : Frame) (t thr : Int) (rB : Res)
    (hfrest : fr.rest = chainBodySeq flags) (hcap : fr.len0 < fr.cap) (hlen : (chainBodySeq flags).length ≤ fr.len0)
    (hauth : auth.length = 32) (hdk : dk.length = 32) (hb4 : b4.length = 4) (he4 : e4.length = 4) (hcs : csig.length = 64)
    (hmk : marker.length ≤ cfg.lim.maxItemSize)
    (hs : sh.stack = auth :: (dk ++ b4 ++ e4 ++ [m] ++ csig) :: marker :: rest1) (hr : sh.returned = false)
    (ht : lookupC C16.tsKey sh.cache = some (.atom (.int t))) (hthr : cfg.tsThreshold = some thr)
    (htrue : truthy (andBytes [m] marker) = true)
    (hsz : 105 ≤ cfg.lim.maxItemSize) (hroom : rest1.length + 6 ≤ cfg.lim.maxItems)
    (hB : TSteps (instrTable H C cfg) cfg.lim
        { (inlineFrame (readCache "d" ++ CALL 0) { fr with rest := [] }
            { sh with stack := rest1, cache := levelCache sh.cache auth dk b4 e4 csig m }) with rest := CALL 0 }
        { (copyDict { sh with stack := rest1, cache := levelCache sh.cache auth dk b4 e4 csig m } fr.dict).2 with stack := dk :: rest1 } rB) :
    Ends (instrTable H C cfg) cfg.lim fr sh
      (fun r => (levelChecks H C cfg auth dk b4 e4 csig m t thr → r = wrapInline { fr with rest := [] } rB) ∧
                (¬ levelChecks H C cfg auth dk b4 e4 csig m t thr → ∃ s, r = .err (.user .see) s)) := by
  have hdl : (chainDecide flags).length ≤ fr.len0 := Nat.le_trans (chainDecide_le_body flags) hlen
  exact chainLevel_run H C cfg auth dk b4 e4 csig m flags (marker :: rest1) sh fr t thr _
    hfrest hcap hauth hdk hb4 he4 hcs hs hr ht hthr hsz (by simp; omega)
    (fun _ => Run.chainDecide (k := 0) hdl hdk hmk (by omega) (fun _ => Run.exact ⟨rB, hB, rfl⟩)
      (fun hfalse => absurd (hfalse.symm.trans htrue) Bool.false_ne_true) hcap hr (by slots))

end TV.C14
