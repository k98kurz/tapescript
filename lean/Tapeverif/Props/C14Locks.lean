import Tapeverif.Props.C14
import Tapeverif.Lemmas.RunCall
/-!
# C14 — the delegation-chain lock, for chains of every length

`Props/C14.lean` proves what one activation of the lock's recursive function does
(`chainLevel_final`, `chainLevel_delegates`). Here the levels are composed through `OP_DEF` /
`OP_CALL` by induction on the list of certificates: the whole lock, on the stack the chain witness
leaves, ends exactly as `chainSpec` says — every certificate inside its window and signed by the
key the previous one delegated to (the first by the root), and the final signature C02-valid under
the last delegate key. From one call site to the next the induction carries `RecFn` (function 0 still
calls itself), the call budget, and the fact that a level's cache entries change nothing the
specification reads (`chainSpec_levelCache`).
-/
namespace TV.C14
open Tools

variable (H : Hashes) (C : Curve)

/-- one link as the lock sees it: the certificate's fields and the item that follows it on the
    stack (`true` / `false` in the builder's witness) -/
structure Level where
  dk : Bytes
  b4 : Bytes
  e4 : Bytes
  m : UInt8
  csig : Bytes
  marker : Bytes

def Level.cert (l : Level) : Bytes := l.dk ++ l.b4 ++ l.e4 ++ [l.m] ++ l.csig

def Level.wf (cfg : Cfg) (l : Level) : Prop :=
  l.dk.length = 32 ∧ l.b4.length = 4 ∧ l.e4.length = 4 ∧ l.csig.length = 64 ∧ l.marker.length ≤ cfg.lim.maxItemSize

/-- what the links occupy on the stack, below the authorizing key and above `tail` -/
def chainStack : List Level → List Bytes → List Bytes
  | [], tail => tail
  | l :: ls, tail => l.cert :: l.marker :: chainStack ls tail

theorem chainStack_length (ls : List Level) (tail : List Bytes) :
    (chainStack ls tail).length = 2 * ls.length + tail.length := by
  induction ls with
  | nil => simp [chainStack]
  | cons l ls ih => simp [chainStack, ih]; omega

/-- the lock's own decision at each link: continue (marker AND may-delegate byte is true) on every
    link but the last -/
def markersOk : List Level → Prop
  | [] => False
  | [l] => truthy (andBytes [l.m] l.marker) = false
  | l :: l2 :: ls => truthy (andBytes [l.m] l.marker) = true ∧ markersOk (l2 :: ls)

/-- **the specification of a chain**: every certificate passes `levelChecks` under the key that
    authorizes it — the first under `auth`, each later one under the previous certificate's
    delegate key — and then the outcome is the C02 specification of the final signature under the
    last delegate key; the first certificate that does not pass ends the run in an error. -/
def chainSpec (cfg : Cfg) (cache : List (CKey × CVal)) (flags : Nat) (t thr : Int) (sig : Bytes) (st : List Bytes) :
    Bytes → List Level → Except Err (List Bytes)
  | _, [] => .error (.user .see)
  | auth, [l] =>
      if levelChecks H C cfg auth l.dk l.b4 l.e4 l.csig l.m t thr then
        (match SigPure.checkSig H C cfg.lim.maxItemSize cache flags sig l.dk with
         | .ok b => .ok (boolBytes b :: st)
         | .error e => .error (.user e))
      else .error (.user .see)
  | auth, l :: l2 :: ls =>
      if levelChecks H C cfg auth l.dk l.b4 l.e4 l.csig l.m t thr then chainSpec cfg cache flags t thr sig st l.dk (l2 :: ls)
      else .error (.user .see)

theorem chainSpec_levelCache (cfg : Cfg) (cache : List (CKey × CVal)) (flags : Nat) (t thr : Int) (sig : Bytes) (st : List Bytes)
    (a d b e s : Bytes) (m : UInt8) : ∀ (ls : List Level) (auth : Bytes),
    chainSpec H C cfg (levelCache cache a d b e s m) flags t thr sig st auth ls = chainSpec H C cfg cache flags t thr sig st auth ls := by
  intro ls
  induction ls with
  | nil => intro auth; rfl
  | cons l ls ih =>
    intro auth
    cases ls with
    | nil => simp only [chainSpec, levelCache_checkSig]
    | cons l2 ls' => simp only [chainSpec, ih]

/-- every link passes `levelChecks` under the key that authorizes it: the first under `auth`, each later
    one under the previous certificate's delegate key -/
def allLinks (cfg : Cfg) (t thr : Int) : Bytes → List Level → Prop
  | _, [] => True
  | auth, l :: ls => levelChecks H C cfg auth l.dk l.b4 l.e4 l.csig l.m t thr ∧ allLinks cfg t thr l.dk ls

def lastKey : Bytes → List Level → Bytes
  | auth, [] => auth
  | _, l :: ls => lastKey l.dk ls

theorem chainSpec_ok_iff (cfg : Cfg) (cache : List (CKey × CVal)) (flags : Nat) (t thr : Int) (sig : Bytes) (st : List Bytes) (out : List Bytes) :
    ∀ (ls : List Level) (auth : Bytes), ls ≠ [] →
    (chainSpec H C cfg cache flags t thr sig st auth ls = .ok out ↔
      allLinks H C cfg t thr auth ls ∧
      ∃ b, SigPure.checkSig H C cfg.lim.maxItemSize cache flags sig (lastKey auth ls) = .ok b ∧ out = boolBytes b :: st) := by
  intro ls
  induction ls with
  | nil => intro auth h; exact absurd rfl h
  | cons l ls ih =>
    intro auth _
    cases ls with
    | nil =>
      simp only [chainSpec, allLinks, lastKey, and_true, ite_error_eq_ok]
      refine and_congr_right fun _ => ?_
      cases SigPure.checkSig H C cfg.lim.maxItemSize cache flags sig l.dk <;> simp [eq_comm]
    | cons l2 ls' =>
      rw [chainSpec, allLinks, lastKey, ite_error_eq_ok, and_assoc]
      exact and_congr_right fun _ => ih l.dk (List.cons_ne_nil _ _)

/-- **C14, chains of every length, from the call site.** In any frame that is not itself a
    function activation and is about to execute `call d0`, with function 0 bound — in that frame's
    definition table and in the table the function was defined in — to a function object whose body
    is the chain lock's body: from the stack `auth :: cert₁ :: marker₁ :: … :: certₙ :: markerₙ ::
    sig :: st` the run ends exactly as `chainSpec` says. Resource hypotheses: `n` more calls fit in
    the call budget, the stack has four free slots above `auth`, items of 105 bytes are allowed. -/
theorem chain_call (cfg : Cfg) (hno : cfg.sigExts = []) (flags : Nat) (hfl : flags < 256) (F d0 : Nat) (t thr : Int)
    (hthr : cfg.tsThreshold = some thr) (hsz : 105 ≤ cfg.lim.maxItemSize) (sig : Bytes) (st : List Bytes) :
    ∀ (ls : List Level) (auth : Bytes) (frS : Frame) (shS : Shared),
    ls ≠ [] → markersOk ls → (∀ l ∈ ls, l.wf cfg) → auth.length = 32 →
    frS.rest = CALL 0 → frS.fn = none → frS.len0 < frS.cap →
    lookupDef 0 (shS.dicts.getD frS.dict []) = some F →
    F < shS.fns.length → (shS.fns.getD F default).body = chainBodySeq flags → (shS.fns.getD F default).dict = d0 →
    d0 < shS.dicts.length → lookupDef 0 (shS.dicts.getD d0 []) = some F →
    frS.count + ls.length ≤ cfg.lim.callLimit →
    shS.stack = auth :: chainStack ls (sig :: st) → shS.returned = false →
    lookupC C16.tsKey shS.cache = some (.atom (.int t)) →
    (chainStack ls (sig :: st)).length + 5 ≤ cfg.lim.maxItems →
    Ends (instrTable H C cfg) cfg.lim frS shS
      (fun r => Res.summary r = chainSpec H C cfg shS.cache flags t thr sig st auth ls) := by
  intro ls
  induction ls with
  | nil => intro _ _ _ h; exact absurd rfl h
  | cons l ls ih =>
    intro auth fr sh _ hmk hwf hauth hrest hfn hcap hlk hF hbody hdict hd0 hlk0 hcount hs hr ht hroom
    obtain ⟨hdk, hb4, he4, hcs, hml⟩ := hwf l (.head _)
    have hrec : RecFn sh 0 F (chainBodySeq flags) d0 := ⟨hF, hbody, hdict, hd0, hlk0⟩
    rw [List.length_cons] at hcount
    -- every link begins with the call: its level runs in the activation `frB` of `F`, over `sh2`
    let frB := callFrame ⟨chainBodySeq flags, d0, 0⟩ F fr.count
    let sh2 := setFnCount sh F (fr.count + 1)
    suffices h : Ends (instrTable H C cfg) cfg.lim frB sh2
        (fun r => Res.summary r = chainSpec H C cfg sh.cache flags t thr sig st auth (l :: ls)) from
      let ⟨rB, hB, hP⟩ := h
      ⟨_, run_call_last H C cfg fr sh 0 F rB hrest hcap hr hfn (by omega) hlk
          (hrec.callFrame _ ▸ hB), (summary_wrapCall _ rB).trans hP⟩
    cases ls with
    | nil =>
      exact chainLevel_final H C cfg hno auth l.dk l.b4 l.e4 l.csig l.marker sig l.m flags st sh2 frB t thr
        rfl (Nat.lt_succ_self _) (Nat.le_refl _) hauth hdk hb4 he4 hcs hfl hml hs hr ht hthr hmk hsz
        (by simp only [chainStack, List.length_cons] at hroom; omega)
    | cons l2 ls' =>
      obtain ⟨htrue, hmk'⟩ := hmk
      -- the next call site `frI`: the IF arm of the decision, in the state `shI` the level leaves there
      let rest1 := chainStack (l2 :: ls') (sig :: st)
      let shL : Shared := { sh2 with stack := rest1, cache := levelCache sh.cache auth l.dk l.b4 l.e4 l.csig l.m }
      let frI : Frame := { inlineFrame (readCache "d" ++ CALL 0) { frB with rest := [] } shL with rest := CALL 0 }
      let shI : Shared := { (copyDict shL d0).2 with stack := l.dk :: rest1 }
      have hrecL : RecFn shL 0 F (chainBodySeq flags) d0 := (hrec.setFnCount F _).of_eq rfl rfl
      have hrecI : RecFn shI 0 F (chainBodySeq flags) d0 := (hrecL.copyDict d0).of_eq rfl rfl
      have hcI : frI.count = fr.count + 1 := getCount_callee { frB with rest := [] } sh F _ rfl hF
      obtain ⟨rI, hI, hsumI⟩ := ih l.dk frI shI (List.cons_ne_nil _ _) hmk' (fun x hx => hwf x (.tail _ hx)) hdk rfl rfl
        (by rw [chainBodySeq_length, callArm_length]; decide : (readCache "d" ++ CALL 0).length < (chainBodySeq flags).length)
        hrecL.lookup_copy hrecI.lt hrecI.body hrecI.dict hrecI.dlt hrecI.self
        (by rw [hcI]; omega)
        rfl hr ((levelCache_ts ..).trans ht) (by simp only [chainStack, List.length_cons] at hroom ⊢; omega)
      refine (chainLevel_delegates H C cfg auth l.dk l.b4 l.e4 l.csig l.marker l.m flags rest1 sh2 frB t thr rI
        rfl (Nat.lt_succ_self _) (Nat.le_refl _) hauth hdk hb4 he4 hcs hml hs hr ht hthr htrue hsz
        (by simp only [rest1, chainStack, List.length_cons] at hroom ⊢; omega) hI).imp fun r ⟨hpass, hfail⟩ => ?_
      by_cases hc : levelChecks H C cfg auth l.dk l.b4 l.e4 l.csig l.m t thr
      · rw [hpass hc, summary_wrapInline, hsumI]; exact (chainSpec_levelCache ..).trans (if_pos hc).symm
      · obtain ⟨s, rfl⟩ := hfail hc; exact (if_neg hc).symm

/-- **C14, the delegation-chain lock, chains of every length.** The bytes
    `make_delegate_key_chain_lock(root, flags)` compiles to, run in a top-level frame on the stack
    the chain witness leaves (`cert₁ :: marker₁ :: … :: certₙ :: markerₙ :: sig :: st`, `cert₁` the
    one issued by the root), end exactly as `chainSpec` says with the root as first authorizing
    key. -/
theorem chainLock_run (cfg : Cfg) (hno : cfg.sigExts = []) (root : Bytes) (flags : Nat) (hfl : flags < 256) (t thr : Int)
    (hthr : cfg.tsThreshold = some thr) (hsz : 105 ≤ cfg.lim.maxItemSize) (sig : Bytes) (st : List Bytes)
    (ls : List Level) (fr : Frame) (sh : Shared)
    (hne : ls ≠ []) (hmk : markersOk ls) (hwf : ∀ l ∈ ls, l.wf cfg) (hroot : root.length = 32)
    (hrest : fr.rest = delegateKeyChainLock root flags) (hfn : fr.fn = none) (hcap : fr.len0 < fr.cap)
    (hd : fr.dict < sh.dicts.length) (hcount : fr.count + ls.length ≤ cfg.lim.callLimit)
    (hs : sh.stack = chainStack ls (sig :: st)) (hr : sh.returned = false)
    (ht : lookupC C16.tsKey sh.cache = some (.atom (.int t)))
    (hroom : (chainStack ls (sig :: st)).length + 5 ≤ cfg.lim.maxItems) :
    Ends (instrTable H C cfg) cfg.lim fr sh
      (fun r => Res.summary r = chainSpec H C cfg sh.cache flags t thr sig st root ls) := by
  -- `def 0 { … }` leaves function 0 calling itself; then the root key, and the first call
  have hrec : RecFn (defState sh fr.dict 0 (chainBodySeq flags)) 0 sh.fns.length (chainBodySeq flags) fr.dict := .defState hd
  exact Run.ends 5 (hrest.trans (chainLock_bytes root flags)) hs hcap hr hroom <|
    Run.def (by rw [chainBodySeq_length]; decide) <| Run.pushKey hroot (by omega) <| Run.exact <|
    chain_call H C cfg hno flags hfl _ _ t thr hthr hsz sig st ls root _ _ hne hmk hwf hroot rfl hfn hcap
      hrec.self hrec.lt hrec.body hrec.dict hrec.dlt hrec.self hcount rfl hr ht hroom

/-- the chain lock leaves `true` exactly when every link passes and the final signature is
    C02-valid under the last delegate key -/
theorem chainLock_accepts_iff (cfg : Cfg) (cache : List (CKey × CVal)) (flags : Nat) (t thr : Int) (sig root : Bytes) (st : List Bytes)
    (ls : List Level) (hne : ls ≠ []) :
    chainSpec H C cfg cache flags t thr sig st root ls = .ok (boolBytes true :: st) ↔
      allLinks H C cfg t thr root ls ∧
      SigPure.checkSig H C cfg.lim.maxItemSize cache flags sig (lastKey root ls) = .ok true := by
  rw [chainSpec_ok_iff H C cfg cache flags t thr sig st _ ls root hne]
  refine and_congr_right fun _ => ⟨?_, fun hb => ⟨true, hb, rfl⟩⟩
  rintro ⟨b, hb, heq⟩
  cases b
  · exact absurd (List.cons.inj heq).1 (by decide)
  · exact hb

/-- the same, stated for the frame `run_auth_scripts` creates for the lock script (call counter
    `count` inherited from the witness script) -/
theorem chainLock_run_top (cfg : Cfg) (hno : cfg.sigExts = []) (root : Bytes) (flags : Nat) (hfl : flags < 256) (t thr : Int)
    (hthr : cfg.tsThreshold = some thr) (hsz : 105 ≤ cfg.lim.maxItemSize) (sig : Bytes) (st : List Bytes)
    (ls : List Level) (count : Nat) (sh : Shared)
    (hne : ls ≠ []) (hmk : markersOk ls) (hwf : ∀ l ∈ ls, l.wf cfg) (hroot : root.length = 32)
    (hd : 0 < sh.dicts.length) (hcount : count + ls.length ≤ cfg.lim.callLimit)
    (hs : sh.stack = chainStack ls (sig :: st)) (hr : sh.returned = false)
    (ht : lookupC C16.tsKey sh.cache = some (.atom (.int t)))
    (hroom : (chainStack ls (sig :: st)).length + 5 ≤ cfg.lim.maxItems) :
    Ends (instrTable H C cfg) cfg.lim (topFrame (delegateKeyChainLock root flags) count) sh
      (fun r => Res.summary r = chainSpec H C cfg sh.cache flags t thr sig st root ls) :=
  chainLock_run H C cfg hno root flags hfl t thr hthr hsz sig st ls _ sh hne hmk hwf hroot rfl rfl (by simp [topFrame])
    hd hcount hs hr ht hroom

/-- Non-vacuity of the structural hypotheses: the builder's witness shape for two links (`true`
    after a delegable certificate, `false` after the last one). -/
example (cfg : Cfg) (h : 1 ≤ cfg.lim.maxItemSize) :
    let l1 : Level := ⟨List.replicate 32 1, [0, 0, 0, 1], [0, 0, 0, 9], 0xff, List.replicate 64 2, [0xff]⟩
    let l2 : Level := ⟨List.replicate 32 3, [0, 0, 0, 1], [0, 0, 0, 9], 0x00, List.replicate 64 4, [0x00]⟩
    markersOk [l1, l2] ∧ (∀ l ∈ [l1, l2], l.wf cfg) ∧ (chainStack [l1, l2] [[7]]).length = 5 := by
  refine ⟨show _ ∧ truthy _ = false from ⟨by simp [andBytes, truthy, zipWithPad], by simp [andBytes, truthy, zipWithPad]⟩, ?_, rfl⟩
  intro l hl
  simp only [List.mem_cons, List.not_mem_nil, or_false] at hl
  rcases hl with rfl | rfl <;> exact ⟨rfl, rfl, rfl, rfl, h⟩

end TV.C14
