import Tapeverif.Props.C15
/-! # C16, lock level — the timestamp lock builders executed symbolically

Separate from `Props/C16.lean` because the instruction rules (`Lemmas/InstrSteps.lean`) import that file. -/
namespace TV.C16
open Tools

section fragments
variable {H : Hashes} {C : Curve} {cfg : Cfg} {fr : Frame} {sh : Shared} {k : Nat} {rest : Bytes} {st : List Bytes}
  {wr : Written} {P : Res → Prop} {t thr : Int}

/-- `push d<ts> check_timestamp` in front of any continuation: the Boolean of the after-lock on the stack -/
theorem Run.afterLock (ts : Int) (hts : 0 ≤ ts) (hlen : (intToBytes ts).length ≤ cfg.lim.maxItemSize) (hlen2 : (intToBytes ts).length < 65536)
    (hclk : Clock cfg sh.cache t thr) (h1 : 1 ≤ cfg.lim.maxItemSize)
    (h : Run H C cfg fr sh k rest (boolBytes (decide (ts ≤ t ∧ (thr ≤ 0 ∨ t - cfg.now < thr))) :: st) wr P) :
    Run H C cfg fr sh (k + 1) (timestampAfterLock ts false ++ rest) st wr P := by
  rw [← C15.refund_time_condition t cfg.now thr ts hts] at h
  rw [timestampAfterLock, List.append_assoc]
  exact Run.pushInt hlen2 hlen (Run.cts hclk (intToBytes_ne_nil ts) h1 h)

/-- `push d<ts> check_timestamp_verify` in front of any continuation: the run goes on inside the window and ends in
    the error outside -/
theorem Run.afterLockVerify (ts : Int) (hts : 0 ≤ ts) (hlen : (intToBytes ts).length ≤ cfg.lim.maxItemSize) (hlen2 : (intToBytes ts).length < 65536)
    (hclk : Clock cfg sh.cache t thr) (h1 : 1 ≤ cfg.lim.maxItemSize)
    (hin : ts ≤ t ∧ (thr ≤ 0 ∨ t - cfg.now < thr) → Run H C cfg fr sh (k + 1) rest st wr P)
    (hout : ¬ (ts ≤ t ∧ (thr ≤ 0 ∨ t - cfg.now < thr)) → ∀ s, P (.err (.user .see) s)) :
    Run H C cfg fr sh (k + 1) (timestampAfterLock ts true ++ rest) st wr P := by
  rw [timestampAfterLock, List.append_assoc]
  refine Run.pushInt hlen2 hlen (Run.ctsv hclk (intToBytes_ne_nil ts) h1 (fun hacc => hin ?_) (fun hacc => hout ?_ _))
  all_goals simpa [C15.refund_time_condition t cfg.now thr ts hts] using hacc

/-- `push d<ts> check_timestamp not` in front of any continuation (K1: the value is true also for a timestamp ahead
    of the clock) -/
theorem Run.beforeLock (ts : Int) (hts : 0 ≤ ts) (hlen : (intToBytes ts).length ≤ cfg.lim.maxItemSize) (hlen2 : (intToBytes ts).length < 65536)
    (hclk : Clock cfg sh.cache t thr) (h1 : 1 ≤ cfg.lim.maxItemSize)
    (h : ∀ top, truthy top = decide (t < ts ∨ (thr > 0 ∧ t - cfg.now ≥ thr)) → Run H C cfg fr sh k rest (top :: st) wr P) :
    Run H C cfg fr sh (k + 1) (timestampBeforeLock ts false ++ rest) st wr P := by
  simp only [timestampBeforeLock, Bool.false_eq_true, ↓reduceIte, List.append_nil, List.append_assoc]
  refine Run.pushInt hlen2 hlen (Run.cts hclk (intToBytes_ne_nil ts) h1 (Run.not (by rw [boolBytes_length]; exact h1) (h _ ?_)))
  rw [notBytes_bool, beforeLock_value_iff, C15.deadline_readback ts hts]

end fragments

variable (H : Hashes) (C : Curve)

/-- **C16, the after-lock (`push d<ts> check_timestamp`), exact outcome**: the Boolean
    `ts ≤ t ∧ (thr ≤ 0 ∨ t − now < thr)` on the stack, for every non-negative `ts` -/
theorem afterLock_run (cfg : Cfg) (ts : Int) (hts : 0 ≤ ts) (hlen : (intToBytes ts).length ≤ cfg.lim.maxItemSize) (hlen2 : (intToBytes ts).length < 65536)
    (sh : Shared) (count : Nat) (t thr : Int) (hr : sh.returned = false)
    (ht : lookupC tsKey sh.cache = some (.atom (.int t))) (hthr : cfg.tsThreshold = some thr)
    (h1 : 1 ≤ cfg.lim.maxItemSize) (hroom : sh.stack.length < cfg.lim.maxItems) :
    Ends (instrTable H C cfg) cfg.lim (topFrame (timestampAfterLock ts false) count) sh
      (fun r => Res.summary r = .ok (boolBytes (decide (ts ≤ t ∧ (thr ≤ 0 ∨ t - cfg.now < thr))) :: sh.stack)) :=
  Run.top 1 (List.append_nil _).symm rfl hr hroom (Run.afterLock ts hts hlen hlen2 ⟨ht, hthr⟩ h1 (Run.nil rfl))

/-- **the verify form**: passes (leaving the stack as it was) exactly in that window, else an error -/
theorem afterLockVerify_run (cfg : Cfg) (ts : Int) (hts : 0 ≤ ts) (hlen : (intToBytes ts).length ≤ cfg.lim.maxItemSize) (hlen2 : (intToBytes ts).length < 65536)
    (sh : Shared) (count : Nat) (t thr : Int) (hr : sh.returned = false)
    (ht : lookupC tsKey sh.cache = some (.atom (.int t))) (hthr : cfg.tsThreshold = some thr)
    (h1 : 1 ≤ cfg.lim.maxItemSize) (hroom : sh.stack.length < cfg.lim.maxItems) :
    Ends (instrTable H C cfg) cfg.lim (topFrame (timestampAfterLock ts true) count) sh
      (fun r => Res.summary r = (if ts ≤ t ∧ (thr ≤ 0 ∨ t - cfg.now < thr) then .ok sh.stack else .error (.user .see))) :=
  Run.top 1 (List.append_nil _).symm rfl hr hroom (Run.afterLockVerify ts hts hlen hlen2 ⟨ht, hthr⟩ h1
    (fun hw => Run.nil (if_pos hw).symm) (fun hw _ => (if_neg hw).symm))

/-- **C16, the before-lock (`push d<ts> check_timestamp not`), exact outcome** — the formal
    statement of known finding K1: the value left is true for `t < ts` *and also* for every `t`
    ahead of the clock by the threshold or more -/
theorem beforeLock_run (cfg : Cfg) (ts : Int) (hts : 0 ≤ ts) (hlen : (intToBytes ts).length ≤ cfg.lim.maxItemSize) (hlen2 : (intToBytes ts).length < 65536)
    (sh : Shared) (count : Nat) (t thr : Int) (hr : sh.returned = false)
    (ht : lookupC tsKey sh.cache = some (.atom (.int t))) (hthr : cfg.tsThreshold = some thr)
    (h1 : 1 ≤ cfg.lim.maxItemSize) (hroom : sh.stack.length < cfg.lim.maxItems) :
    Ends (instrTable H C cfg) cfg.lim (topFrame (timestampBeforeLock ts false) count) sh
      (fun r => ∃ top, Res.summary r = .ok (top :: sh.stack) ∧
        truthy top = decide (t < ts ∨ (thr > 0 ∧ t - cfg.now ≥ thr))) :=
  Run.top 1 (List.append_nil _).symm rfl hr hroom (Run.beforeLock ts hts hlen hlen2 ⟨ht, hthr⟩ h1
    fun top htop => Run.nil ⟨top, rfl, htop⟩)

/-- **C16, the between-lock (`push d<b> check_timestamp_verify push d<e> check_timestamp not`), exact
    outcome**: unlike the bare before-lock (K1), its first clause already refuses a timestamp ahead of
    the clock, so what it leaves is true exactly for `b ≤ t < e` within the slack; outside
    `b ≤ t ∧ slack` it ends in the VERIFY error -/
theorem betweenLock_run (cfg : Cfg) (b e : Int) (hb0 : 0 ≤ b) (he0 : 0 ≤ e)
    (hlb : (intToBytes b).length ≤ cfg.lim.maxItemSize) (hlb2 : (intToBytes b).length < 65536)
    (hle : (intToBytes e).length ≤ cfg.lim.maxItemSize) (hle2 : (intToBytes e).length < 65536)
    (sh : Shared) (count : Nat) (t thr : Int) (hr : sh.returned = false)
    (ht : lookupC tsKey sh.cache = some (.atom (.int t))) (hthr : cfg.tsThreshold = some thr)
    (h1 : 1 ≤ cfg.lim.maxItemSize) (hroom : sh.stack.length < cfg.lim.maxItems) :
    Ends (instrTable H C cfg) cfg.lim (topFrame (timestampBetweenLock b e false) count) sh
      (fun r => if b ≤ t ∧ (thr ≤ 0 ∨ t - cfg.now < thr)
                then ∃ top, Res.summary r = .ok (top :: sh.stack) ∧ truthy top = decide (t < e)
                else Res.summary r = .error (.user .see)) := by
  refine Run.top 1 (by rw [timestampBetweenLock, ← List.append_nil (timestampBeforeLock e false)]) rfl hr hroom ?_
  refine Run.afterLockVerify b hb0 hlb hlb2 ⟨ht, hthr⟩ h1 (fun hw => ?_) (fun hw _ => by rw [if_neg hw]; rfl)
  refine Run.beforeLock e he0 hle hle2 ⟨ht, hthr⟩ h1 fun top htop => Run.nil ?_
  -- within the slack the second disjunct of K1 cannot hold
  rw [if_pos hw]
  exact ⟨top, rfl, htop.trans (decide_eq_decide.mpr ⟨fun h => h.elim id fun ⟨_, _⟩ => by have := hw.2; omega, Or.inl⟩)⟩

end TV.C16
