import Tapeverif.Lemmas.Asm
import Tapeverif.Gen.Tables
/-! # C12 — decoding always terminates, moves forward, and is inverted by encoding -/
namespace TV.C12

open Asm

/-- C12.2 whatever `decodeOperands` reads, re-encoding gives back exactly the bytes it consumed,
    and the fields fit their layout (so the bytecode determines the instruction and vice versa). -/
theorem encode_decode_operands (c : UInt8) (b : Bytes) (fs : List Bytes) (r : Bytes)
    (h : decodeOperands c b = some (fs, r)) :
    encodeOperands c fs ++ r = b ∧ wellFormed ⟨c, fs⟩ = true :=
  (decodeOperands_eq_some.1 h).imp_left Eq.symm

theorem encode_decode_next (b : Bytes) (i : Instr) (r : Bytes) (h : decodeNext b = some (i, r)) :
    encodeInstr i ++ r = b ∧ wellFormed i = true :=
  (decodeNext_eq_some.1 h).imp_left Eq.symm

/-- C12.1 the decoder never reads backwards and always makes progress: what is left after one
    instruction is a proper suffix of the input. -/
theorem decodeNext_progress (b : Bytes) (i : Instr) (r : Bytes) (h : decodeNext b = some (i, r)) :
    r.length < b.length ∧ ∃ pre, b = pre ++ r := by
  obtain ⟨rfl, _⟩ := decodeNext_eq_some.1 h
  exact ⟨by simp [encodeInstr]; omega, _, rfl⟩

/-- C12.2 for every byte string that decodes, re-encoding the decoded sequence reproduces the
    identical bytes (all well-formed bytecode, not only compiler output). -/
theorem encode_decode_seq : ∀ (fuel : Nat) (b : Bytes) (is : List Instr),
    decodeSeq fuel b = some is → encodeSeq is = b ∧ ∀ i ∈ is, wellFormed i = true :=
  fun _ _ _ h => (decodeSeq_eq_some.1 h).2

def lookupS (k : String) (l : List (String × String)) : Option String := (l.find? (·.1 = k)).map (·.2)

/-- table obligation: for every assigned opcode, the name, and the operand class measured on the
    implementation's decompiler (bytes consumed on two probe patterns + line shape), equal the
    model's (regenerated from /repo on this run) -/
theorem decompiler_classes_match :
    Gen.opcodes.all (fun (c, n) => opName c = n ∧ lookupS n Gen.decompilerClass = some (kindOf c).name) = true := by
  simp only [lookupS, decide_eq_via strKey]
  decide +kernel

/-- Non-vacuity: a nested program decodes and re-encodes. -/
example : (decodeAll [43, 0, 2, 1, 48, 0]).map encodeSeq = some [43, 0, 2, 1, 48, 0] := by decide

end TV.C12
